/- Tie T, one fact per module so that a change of one textual fact breaks only the properties that rest on it (see CosetProofs/Ties.lean). -/
import CosetProofs.Ties.Covered
namespace Coset.Ties

/-- F8: the syntactic panic sites (unwrap / expect / panic! / assert! / unreachable! / remove / index / len-subtraction …), counted per module and kind:
    the current source has **no site beyond the transcribed tree's, per module and kind** (C01 is "never panics": a site that disappeared —
    a positional `remove` rewritten with iterators, say — cannot hurt it; a new one, or one more of a kind in a module, breaks this).
    The documented panics, whose *presence* matters (C03–C05, C19), are tied separately (builder methods, recipient guards) and
    exercised by the correspondence. -/
theorem panic_sites : sitesCovered Gen.panicSites Pinned.panicSites = true := by
  first | exact sitesCovered_of_eq rfl | decide +kernel

end Coset.Ties
