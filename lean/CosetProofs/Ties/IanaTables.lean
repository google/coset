/- Tie T, fact F1 as a whole: the sixteen registry tables of `src/iana/mod.rs`, name by name and value by value, equal the offline
   transcription of the IANA registries (CosetRef/Iana.lean).  C17 proves this table by table; the properties whose streams *build* values
   from registry names (structures, flows, encoders, builders) import this one fact, so that a swapped pair of rows — invisible to every
   round trip through `from_i64` / `to_i64` — breaks their obligations too (informed round 13). -/
import CosetGen.Iana
import CosetRef.Iana
namespace Coset.Ties

/-- every registry table of the source equals its transcription. -/
def IanaTablesOk : Prop :=
    Gen.HeaderParameter = Ref.HeaderParameter ∧ Gen.HeaderAlgorithmParameter = Ref.HeaderAlgorithmParameter ∧ Gen.Algorithm = Ref.Algorithm ∧
    Gen.KeyParameter = Ref.KeyParameter ∧ Gen.KeyType = Ref.KeyType ∧ Gen.Ec2KeyParameter = Ref.Ec2KeyParameter ∧
    Gen.OkpKeyParameter = Ref.OkpKeyParameter ∧ Gen.RsaKeyParameter = Ref.RsaKeyParameter ∧ Gen.SymmetricKeyParameter = Ref.SymmetricKeyParameter ∧
    Gen.HssLmsKeyParameter = Ref.HssLmsKeyParameter ∧ Gen.WalnutDsaKeyParameter = Ref.WalnutDsaKeyParameter ∧ Gen.EllipticCurve = Ref.EllipticCurve ∧
    Gen.KeyOperation = Ref.KeyOperation ∧ Gen.CborTag = Ref.CborTag ∧ Gen.CoapContentFormat = Ref.CoapContentFormat ∧ Gen.CwtClaimName = Ref.CwtClaimName

theorem iana_tables : IanaTablesOk :=
  ⟨rfl, rfl, rfl, rfl, rfl, rfl, rfl, rfl, rfl, rfl, rfl, rfl, rfl, rfl, rfl, rfl⟩

end Coset.Ties
