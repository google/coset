/- Tie T, fact F11 for `src/mac/mod.rs`: the non-test source of the module holds no branching construct, comparison or integer literal
   beyond those of the tree the model was transcribed from (per construct and per literal: at most as many).  A special case that no
   generated input will ever reach (`if n == 4096 { .. }`) still adds a branch, a comparison or a literal, and breaks this; code that
   went away (a helper extracted, a duplicate removed) does not.  Owned by C04. -/
import CosetProofs.Ties.Covered
namespace Coset.Ties

theorem budget_mac : budgetCovered "mac" Gen.decisionBudget Pinned.decisionBudget = true := by
  first | exact coveredBy_of_eq rfl | decide +kernel

end Coset.Ties
