/- Tie T, fact F11 for `src/util/mod.rs`: the non-test source of the module holds no branching construct, comparison or integer literal
   beyond those of the tree the model was transcribed from (per construct and per literal: at most as many).  A special case that no
   generated input will ever reach (`if n == 4096 { .. }`) still adds a branch, a comparison or a literal, and breaks this; code that
   went away (a helper extracted, a duplicate removed) does not.  Owned by C09. -/
import CosetProofs.Ties.Covered
namespace Coset.Ties

theorem budget_util : budgetCovered "util" Gen.decisionBudget Pinned.decisionBudget = true := by
  first | exact coveredBy_of_eq rfl | decide +kernel

end Coset.Ties
