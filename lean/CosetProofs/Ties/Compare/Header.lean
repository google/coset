/- Tie T, fact F11 for `src/header/mod.rs`, comparisons and integer literals only: the module holds no `==` / `!=` / `<=` / `>=` and no integer
   literal beyond those of the tree the model was transcribed from.  This part of the budget is what a special case for one particular
   input is made of, and it is what behaviour-preserving rewrites leave alone (measured: DESIGN.md §13); it is therefore attached to
   *every* property whose theorems rest on this module (the anchors of properties.jsonl), not to one owner. -/
import CosetProofs.Ties.Covered
namespace Coset.Ties

theorem compare_header : compareCovered "header" Gen.decisionBudget Pinned.decisionBudget = true := by
  first | exact coveredBy_of_eq rfl | decide +kernel

end Coset.Ties
