/-
  An inventory covers itself.  On a tree whose regenerated inventories equal the transcribed ones — the usual case — the coverage ties
  hold for that reason, and the kernel need not compare every item of one with every item of the other; where the two differ (a
  rewrite that removed a branch, a helper extracted) the ties fall back on evaluating the comparison.
-/
import CosetProofs.Ties.BudgetDef
import CosetProofs.Ties.SitesDef
namespace Coset.Ties

theorem coveredBy_of_eq {sel : String → Bool} {m : String} {g p : List (String × String × Nat)} (h : g = p) :
    coveredBy sel m g p = true := by
  subst h
  simp only [coveredBy, List.all_eq_true, List.mem_filter, List.any_eq_true, Bool.and_eq_true]
  rintro x ⟨hx, hm, -⟩
  exact ⟨x, hx, ⟨hm, beq_self_eq_true _⟩, decide_eq_true (Nat.le_refl _)⟩

theorem sitesCovered_of_eq {g p : List (String × String × String × Nat)} (h : g = p) : sitesCovered g p = true := by
  subst h
  simp [sitesCovered]

end Coset.Ties
