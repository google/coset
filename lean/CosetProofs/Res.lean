/-
  The result type `Res`, the list combinators over it (`mapRes`, `foldRes`, the ordered-set operations) and the readers of a single
  value (`tryAs…`, `narrow…`, `optBytes`): how they succeed.

  The model writes every `?` of the Rust source as a three-armed `match` that passes `.err` and `.panic` on.  Such a `match` unfolds to
  the same term as `>>=` (or `Res.map`), but the elaborator keeps a `match` folded when it compares terms (`smartUnfolding`).  The modules
  that apply a lemma about `>>=` to a decoder as it is written, or prove a decoder equal to its `do` form by `rfl`, therefore work under
  `set_option smartUnfolding false`.
-/
import CosetModel.Api
namespace Coset

namespace Res
variable {α β : Type}

theorem bind_eq_ok {x : Res α} {f : α → Res β} {b : β} : x >>= f = .ok b ↔ ∃ a, x = .ok a ∧ f a = .ok b := by
  cases x <;> simp

variable {f : α → β} {r : Res α}
@[simp] theorem map_eq_ok {y : β} : r.map f = .ok y ↔ ∃ x, r = .ok x ∧ f x = y := by cases r <;> simp [Res.map]
theorem map_ok_of {x : α} (h : r = .ok x) : r.map f = .ok (f x) := h ▸ rfl
theorem mapErr_eq_ok {e : CoseErr} {x : α} : r.mapErr e = .ok x ↔ r = .ok x := by cases r <;> simp [Res.mapErr]

end Res

theorem vremove_concat {α : Type} (a : List α) (x : α) : vremove (a ++ [x]) a.length = .ok (x, a) := by
  simp [vremove, List.eraseIdx_append_of_length_le]

section mapRes
variable {α β : Type}

theorem mapRes_cons (f : α → Res β) (x : α) (xs : List α) :
    mapRes f (x :: xs) = f x >>= fun y => mapRes f xs >>= fun ys => pure (y :: ys) := by
  simp only [mapRes]; cases f x <;> try rfl
  cases mapRes f xs <;> rfl

theorem mapRes_cons_ok (f : α → Res β) (x : α) (xs : List α) (ys : List β) :
    mapRes f (x :: xs) = .ok ys ↔ ∃ y ys', f x = .ok y ∧ mapRes f xs = .ok ys' ∧ ys = y :: ys' := by
  simp only [mapRes]
  cases f x <;> cases mapRes f xs <;> simp [eq_comm]

theorem mapRes_length (f : α → Res β) : ∀ (xs : List α) (ys : List β), mapRes f xs = .ok ys → ys.length = xs.length
  | [], ys, h => by cases h; rfl
  | x :: xs, ys, h => by
    obtain ⟨y, ys', _, h2, rfl⟩ := (mapRes_cons_ok ..).mp h
    simp [mapRes_length f xs ys' h2]

theorem mapRes_mem (f : α → Res β) : ∀ (xs : List α) (ys : List β), mapRes f xs = .ok ys → ∀ y ∈ ys, ∃ x ∈ xs, f x = .ok y
  | [], ys, h => by cases h; simp
  | x :: xs, ys, h => by
    obtain ⟨y, ys', hy, hys, rfl⟩ := (mapRes_cons_ok ..).mp h
    intro z hz
    rcases List.mem_cons.mp hz with rfl | hz
    · exact ⟨x, by simp, hy⟩
    · obtain ⟨w, hw, hfw⟩ := mapRes_mem f xs ys' hys z hz
      exact ⟨w, by simp [hw], hfw⟩

theorem mapRes_getElem (f : α → Res β) : ∀ (xs : List α) (ys : List β), mapRes f xs = .ok ys →
    ∀ i (hi : i < xs.length) (hk : i < ys.length), f xs[i] = .ok ys[i]
  | [], _, _, _, hi, _ => absurd hi (Nat.not_lt_zero _)
  | x :: xs, _, h, i, hi, hk => by
    obtain ⟨y, ys, hy, hys, rfl⟩ := (mapRes_cons_ok ..).mp h
    cases i with
    | zero => exact hy
    | succ j => exact mapRes_getElem f xs ys hys j (Nat.lt_of_succ_lt_succ hi) (Nat.lt_of_succ_lt_succ hk)

theorem mapRes_forall_mem (f : α → Res β) (P : β → Prop) (hf : ∀ x y, f x = .ok y → P y)
    (xs : List α) (ys : List β) (h : mapRes f xs = .ok ys) : ∀ y ∈ ys, P y := fun y hy =>
  let ⟨x, _, hx⟩ := mapRes_mem f xs ys h y hy; hf x y hx

theorem mapRes_ok_mono {f g : α → Res β} : ∀ {xs : List α} {ys : List β}, (∀ x ∈ xs, ∀ y, f x = .ok y → g x = .ok y) →
    mapRes f xs = .ok ys → mapRes g xs = .ok ys
  | [], _, _, h => h
  | x :: xs, _, hfg, h => by
    obtain ⟨y, ys', hy, hys, rfl⟩ := (mapRes_cons_ok ..).mp h
    exact (mapRes_cons_ok ..).mpr ⟨y, ys', hfg x List.mem_cons_self y hy, mapRes_ok_mono (fun z hz => hfg z (List.mem_cons_of_mem _ hz)) hys, rfl⟩

theorem mapRes_ok_map (f : α → Res β) (g : α → β) : ∀ xs : List α, (∀ x ∈ xs, f x = .ok (g x)) → mapRes f xs = .ok (xs.map g)
  | [], _ => rfl
  | x :: xs, h => by simp only [mapRes, h x (by simp), mapRes_ok_map f g xs fun y hy => h y (by simp [hy]), List.map_cons]

theorem mapRes_roundtrip (f : β → Res α) (g : α → β) : ∀ xs : List α, (∀ x ∈ xs, f (g x) = .ok x) → mapRes f (xs.map g) = .ok xs
  | [], _ => rfl
  | x :: xs, h => by
    simp only [List.map_cons, mapRes, h x (by simp), mapRes_roundtrip f g xs fun y hy => h y (by simp [hy])]

theorem map_of_mapRes (f : β → Res α) (g : α → β) (hfg : ∀ v x, f v = .ok x → g x = v) :
    ∀ (a : List β) (ls : List α), mapRes f a = .ok ls → ls.map g = a
  | [], ls, h => by cases h; rfl
  | v :: a, ls, h => by
    obtain ⟨x, xs, hx, hxs, rfl⟩ := (mapRes_cons_ok ..).mp h
    rw [List.map_cons, hfg v x hx, map_of_mapRes f g hfg a xs hxs]

end mapRes

/-- the two element-wise encoders the model has to spell out inside its mutual blocks are `mapRes`. -/
theorem sigsToValues_eq : ∀ ss, sigsToValues ss = mapRes CoseSignature.toValue ss
  | [] => rfl
  | s :: ss => by
    rw [sigsToValues, mapRes, sigsToValues_eq ss]
    cases CoseSignature.toValue s with
    | ok v => cases mapRes CoseSignature.toValue ss <;> rfl
    | _ => rfl

theorem recipientsToValues_eq : ∀ rs, recipientsToValues rs = mapRes CoseRecipient.toValue rs
  | [] => by rw [recipientsToValues, mapRes]
  | r :: rs => by
    rw [recipientsToValues, mapRes, recipientsToValues_eq rs]
    cases CoseRecipient.toValue r with
    | ok v => cases mapRes CoseRecipient.toValue rs <;> rfl
    | _ => rfl

def foldRes {σ β : Type} (step : σ → β → Res σ) : List β → σ → Res σ
  | [], s => .ok s
  | b :: bs, s =>
    match step s b with
    | .ok s' => foldRes step bs s'
    | .err e => .err e
    | .panic p => .panic p

section foldRes
variable {σ β : Type}

theorem foldRes_nil_ok (step : σ → β → Res σ) (s s' : σ) : foldRes step [] s = .ok s' ↔ s' = s := by
  simp [foldRes, eq_comm]

theorem foldRes_cons_ok (step : σ → β → Res σ) (b : β) (bs : List β) (s s' : σ) :
    foldRes step (b :: bs) s = .ok s' ↔ ∃ s1, step s b = .ok s1 ∧ foldRes step bs s1 = .ok s' := by
  simp only [foldRes]
  cases step s b <;> simp

theorem foldRes_append (step : σ → β → Res σ) (xs ys : List β) (s : σ) :
    foldRes step (xs ++ ys) s = foldRes step xs s >>= foldRes step ys := by
  induction xs generalizing s with
  | nil => rfl
  | cons x xs ih =>
    simp only [List.cons_append, foldRes]
    cases step s x with
    | ok s' => exact ih s'
    | _ => rfl

theorem foldRes_append_ok {step : σ → β → Res σ} {xs ys : List β} {s s1 s2 : σ}
    (h1 : foldRes step xs s = .ok s1) (h2 : foldRes step ys s1 = .ok s2) : foldRes step (xs ++ ys) s = .ok s2 := by
  rw [foldRes_append, h1]; exact h2

theorem foldRes_single {step : σ → β → Res σ} {b : β} {s s' : σ} (h : step s b = .ok s') : foldRes step [b] s = .ok s' := by
  simp only [foldRes, h]

theorem foldRes_invariant (step : σ → β → Res σ) (P : σ → Prop) (hstep : ∀ s b s1, P s → step s b = .ok s1 → P s1) :
    ∀ (bs : List β) (s s' : σ), P s → foldRes step bs s = .ok s' → P s'
  | [], s, s', h0, hf => by cases (foldRes_nil_ok ..).mp hf; exact h0
  | b :: bs, s, s', h0, hf => by
    obtain ⟨s1, h1, h2⟩ := (foldRes_cons_ok ..).mp hf
    exact foldRes_invariant step P hstep bs s1 s' (hstep _ _ _ h0 h1) h2

theorem foldRes_total (step : σ → β → Res σ) (I : σ → List β → Prop)
    (hstep : ∀ s b bs, I s (b :: bs) → ∃ s1, step s b = .ok s1 ∧ I s1 bs) : ∀ (bs : List β) (s : σ), I s bs → ∃ s', foldRes step bs s = .ok s'
  | [], s, _ => ⟨s, rfl⟩
  | b :: bs, s, h => by
    obtain ⟨s1, h1, h2⟩ := hstep s b bs h
    obtain ⟨s', h3⟩ := foldRes_total step I hstep bs s1 h2
    exact ⟨s', (foldRes_cons_ok ..).mpr ⟨s1, h1, h3⟩⟩

end foldRes

theorem setInsert_cons_some {α : Type} (cmp : α → α → Res Ordering) (x y : α) (ys r : List α) :
    setInsert cmp (y :: ys) x = .ok (some r) ↔
      (cmp x y = .ok .lt ∧ r = x :: y :: ys) ∨ (cmp x y = .ok .gt ∧ ∃ r', setInsert cmp ys x = .ok (some r') ∧ r = y :: r') := by
  rw [setInsert]
  cases hc : cmp x y with
  | ok o =>
    cases o with
    | gt => cases hr : setInsert cmp ys x with
      | ok r' => cases r' <;> simp [eq_comm]
      | _ => simp
    | _ => simp [eq_comm]
  | _ => simp

theorem setInsert_perm {α : Type} {cmp : α → α → Res Ordering} {x : α} :
    ∀ {s r : List α}, setInsert cmp s x = .ok (some r) → r.Perm (x :: s)
  | [], r, h => by cases h; exact .refl _
  | y :: ys, r, h => by
    rcases (setInsert_cons_some ..).mp h with ⟨_, rfl⟩ | ⟨_, r', hr, rfl⟩
    · exact .refl _
    · exact ((setInsert_perm hr).cons y).trans (.swap x y ys)

theorem setInsert_mem {α : Type} {cmp : α → α → Res Ordering} {x : α} {s r : List α} (h : setInsert cmp s x = .ok (some r)) (y : α) :
    y ∈ r ↔ y = x ∨ y ∈ s := (setInsert_perm h).mem_iff.trans List.mem_cons

section
variable {α : Type} {cmp : α → α → Res Ordering} (hc : ∀ a b, ∃ o, cmp a b = .ok o)
include hc

theorem setContains_total (s : List α) (x : α) : ∃ b, setContains cmp s x = .ok b := by
  induction s with
  | nil => exact ⟨false, rfl⟩
  | cons y ys ih =>
    obtain ⟨o, ho⟩ := hc x y
    simp only [setContains, ho]
    cases o <;> simp [ih]

theorem setInsert_total (s : List α) (x : α) :
    (∃ r, setInsert cmp s x = .ok (some r)) ∨ (setInsert cmp s x = .ok none ∧ ∃ y ∈ s, cmp x y = .ok .eq) := by
  induction s with
  | nil => exact .inl ⟨[x], rfl⟩
  | cons y ys ih =>
    obtain ⟨o, ho⟩ := hc x y
    simp only [setInsert, ho]
    cases o with
    | lt => exact .inl ⟨_, rfl⟩
    | eq => exact .inr ⟨rfl, y, .head _, ho⟩
    | gt =>
      rcases ih with ⟨r, hr⟩ | ⟨hn, z, hz, hz'⟩
      · exact .inl ⟨y :: r, by rw [hr]⟩
      · exact .inr ⟨by rw [hn], z, .tail _ hz, hz'⟩

end

theorem tryAsBytes_ok (v : Value) (b : Bytes) : tryAsBytes v = .ok b ↔ v = .bytes b := by
  cases v <;> simp [tryAsBytes, typeError]
theorem tryAsString_ok (v : Value) (t : Bytes) : tryAsString v = .ok t ↔ v = .text t := by
  cases v <;> simp [tryAsString, typeError]
theorem tryAsInteger_ok (v : Value) (n : Int) : tryAsInteger v = .ok n ↔ v = .int n := by
  cases v <;> simp [tryAsInteger, typeError]
theorem tryAsNonemptyBytes_ok (v : Value) (b : Bytes) : tryAsNonemptyBytes v = .ok b ↔ v = .bytes b ∧ b ≠ [] := by
  cases v with
  | bytes c =>
    cases c with
    | nil => simp [tryAsNonemptyBytes, tryAsBytes, eq_comm]
    | cons x c =>
      simp only [tryAsNonemptyBytes, tryAsBytes, List.isEmpty_cons, Bool.false_eq_true, if_false, Res.ok.injEq, Value.bytes.injEq]
      exact ⟨fun e => ⟨e, e ▸ List.cons_ne_nil x c⟩, fun e => e.1⟩
  | _ => simp [tryAsNonemptyBytes, tryAsBytes, typeError]
theorem narrowI64_ok {n m : Int} : narrowI64 n = .ok m ↔ (i64Min ≤ n ∧ n ≤ i64Max) ∧ m = n := by
  unfold narrowI64; by_cases h : i64Min ≤ n ∧ n ≤ i64Max <;> simp [h, eq_comm]
theorem narrowU64_ok {n m : Int} : narrowU64 n = .ok m ↔ (0 ≤ n ∧ n ≤ u64Max) ∧ m = n := by
  unfold narrowU64; by_cases h : 0 ≤ n ∧ n ≤ u64Max <;> simp [h, eq_comm]
theorem optBytes_ok (x : Value) (o : Option Bytes) : optBytes x = .ok o ↔ optBytesToValue o = x := by
  cases x <;> cases o <;> simp [optBytes, optBytesToValue, typeError, eq_comm]

/-- `PartyInfo` reads its `bstr / nil` slots with a copy of `optBytes`. -/
theorem nullOrBytes_eq : nullOrBytes = optBytes := by funext x; cases x <;> rfl
theorem nullOrBytes_ok (x : Value) (o : Option Bytes) : nullOrBytes x = .ok o ↔ optBytesToValue o = x := nullOrBytes_eq ▸ optBytes_ok x o

end Coset
