/-
  Call sequences of a builder (`runOps`, `Step.ofRes` of CosetModel/Builders.lean), whatever the builder.
-/
import CosetModel.Builders
namespace Coset

theorem Step.ofRes_ok {β γ : Type} {r : Res γ} {x : γ} (h : r = .ok x) (k : γ → Step β) : Step.ofRes r k = k x := h ▸ rfl

theorem Step.ofRes_next {β γ : Type} (r : Res γ) (k : γ → Step β) (b' : β) :
    Step.ofRes r k = .next b' ↔ ∃ x, r = .ok x ∧ k x = .next b' := by
  cases r <;> simp [Step.ofRes]

theorem runOps_inv_mem {β ο : Type} (apply : β → ο → Step β) (Inv : β → Prop) :
    ∀ (ops : List ο) (b : β) (i : Nat) (b' : β), (∀ o ∈ ops, ∀ b b', Inv b → apply b o = .next b' → Inv b') →
      Inv b → (runOps apply ops b i).1 = .next b' → Inv b'
  | [], b, i, b', _, hi, hr => by cases hr; exact hi
  | o :: os, b, i, b', step, hi, hr => by
    rw [runOps] at hr
    cases hs : apply b o with
    | next b1 =>
      rw [hs] at hr
      exact runOps_inv_mem apply Inv os b1 (i + 1) b' (fun o ho => step o (.tail _ ho)) (step o (.head _) b b1 hi hs) hr
    | fail n => rw [hs] at hr; cases hr
    | panic s => rw [hs] at hr; cases hr

theorem runOps_append {β ο : Type} (apply : β → ο → Step β) (post : List ο) : ∀ (pre : List ο) (b : β) (i : Nat),
    runOps apply (pre ++ post) b i = match runOps apply pre b i with | (.next b1, j) => runOps apply post b1 j | r => r
  | [], _, _ => rfl
  | p :: ps, b, i => by
    rw [List.cons_append, runOps, runOps]
    cases apply b p with
    | next b2 => exact runOps_append apply post ps b2 (i + 1)
    | fail n => rfl
    | panic s => rfl

end Coset

namespace Coset.Props.C06

/-- the induction over the call sequence that C06 rests on (`ok`: the calls admitted). -/
theorem runOps_preserves {β ο : Type} (apply : β → ο → Step β) (P : β → β → Prop) (hrefl : ∀ b, P b b) (htrans : ∀ a b c, P a b → P b c → P a c)
    (ok : ο → Bool) (hstep : ∀ b o b', ok o = true → apply b o = .next b' → P b b') :
    ∀ (ops : List ο) (b b' : β) (i j : Nat), ops.all ok = true → runOps apply ops b i = (.next b', j) → P b b' :=
  fun ops b b' i _ hall h => runOps_inv_mem apply (P b) ops b i b'
    (fun o ho c c' hc ha => htrans _ _ _ hc (hstep c o c' (List.all_eq_true.mp hall o ho) ha)) (hrefl b) (congrArg Prod.fst h)

theorem runOps_keeps {β ο γ : Type} (apply : β → ο → Step β) (f : β → γ) (ok : ο → Bool)
    (hstep : ∀ b o b', ok o = true → apply b o = .next b' → f b' = f b)
    (ops : List ο) (b b' : β) (i j : Nat) (hk : ops.all ok = true) (h : runOps apply ops b i = (.next b', j)) : f b' = f b :=
  runOps_preserves apply (fun a b => f b = f a) (fun _ => rfl) (fun _ _ _ h1 h2 => h2.trans h1) ok hstep ops b b' i j hk h

end Coset.Props.C06
