/-
  The three map decoders (header, COSE_Key, claims set) run the same loop: turn the key into a label, refuse a label seen before, hand label
  and value to a dispatch that updates the result.  `genLoop` is that loop over any label type and step.  Where the `seen` test is list
  membership (`setContains_exact`) it succeeds exactly when the keys are labels, the labels are pairwise distinct and the plain fold of the
  step over the label/value pairs succeeds (`genLoop_ok_iff`); what is specific to a field is said about that fold (FieldFold.lean).
-/
import CosetProofs.Res
namespace Coset

/-- `seen.contains(&l)` is list membership (`Good`: the labels that decoding produces). -/
theorem setContains_exact {L : Type} [DecidableEq L] (cmpL : L → L → Res Ordering) (Good : L → Prop)
    (hok : ∀ a b, ∃ o, cmpL a b = .ok o) (heq : ∀ a b, Good a → Good b → (cmpL a b = .ok .eq ↔ a = b))
    (seen : List L) (l : L) (hs : ∀ x ∈ seen, Good x) (hl : Good l) : setContains cmpL seen l = .ok (decide (l ∈ seen)) := by
  induction seen with
  | nil => rfl
  | cons y ys ih =>
    obtain ⟨o, ho⟩ := hok l y
    have he : o = .eq ↔ l = y := by rw [← heq l y hl (hs y List.mem_cons_self), ho, Res.ok.injEq]
    rw [setContains, ho]
    by_cases hly : l = y
    · simp [he.mpr hly, hly]
    · have hne : o ≠ .eq := mt he.mp hly
      -- `hne` sends the `match` to its second arm
      simp only [List.mem_cons, hly, false_or, ← ih fun x hx => hs x (List.mem_cons_of_mem _ hx)]

def genLoop {L σ : Type} (keyFrom : Value → Res L) (cmpL : L → L → Res Ordering) (step : σ → L × Value → Res σ) :
    List (Value × Value) → σ → List L → Res σ
  | [], s, _ => .ok s
  | (k, v) :: m, s, seen =>
    match keyFrom k with
    | .ok l =>
      match setContains cmpL seen l with
      | .ok true => .err .duplicateMapKey
      | .ok false =>
        match step s (l, v) with
        | .ok s' => genLoop keyFrom cmpL step m s' (seen ++ [l])
        | .err e => .err e
        | .panic p => .panic p
      | .err e => .err e
      | .panic p => .panic p
    | .err e => .err e
    | .panic p => .panic p

/-- the labels `ls` get past the `seen` test of `genLoop` (hence the `G`) one after the other. -/
def FreshG {L : Type} (seen ls : List L) : Prop := ls.Nodup ∧ ∀ l ∈ ls, l ∉ seen

theorem freshG_cons {L : Type} (seen : List L) (l : L) (ls : List L) : FreshG seen (l :: ls) ↔ l ∉ seen ∧ FreshG (seen ++ [l]) ls := by
  simp only [FreshG, List.nodup_cons, List.forall_mem_cons, List.mem_append, List.mem_singleton, not_or, forall_and]
  constructor
  · rintro ⟨⟨h1, h2⟩, h3, h4⟩; exact ⟨h3, h2, h4, fun x hx e => h1 (e ▸ hx)⟩
  · rintro ⟨h3, h2, h4, h5⟩; exact ⟨⟨fun hx => h5 l hx rfl, h2⟩, h3, h4⟩

section
variable {L σ : Type} [DecidableEq L] (keyFrom : Value → Res L) (cmpL : L → L → Res Ordering) (step : σ → L × Value → Res σ)
    (Good : L → Prop) (hk : ∀ k l, keyFrom k = .ok l → Good l)
    (hc : ∀ seen l, (∀ x ∈ seen, Good x) → Good l → setContains cmpL seen l = .ok (decide (l ∈ seen)))
include hk hc

theorem genLoop_cons (k v : Value) (m : List (Value × Value)) (s : σ) (seen : List L) (hg : ∀ x ∈ seen, Good x) :
    genLoop keyFrom cmpL step ((k, v) :: m) s seen =
      keyFrom k >>= fun l => if l ∈ seen then .err .duplicateMapKey else
        step s (l, v) >>= fun s' => genLoop keyFrom cmpL step m s' (seen ++ [l]) := by
  rw [genLoop]
  cases hkk : keyFrom k with
  | ok l =>
    simp only [hc seen l hg (hk k l hkk), Res.bind_ok]
    by_cases hin : l ∈ seen
    · simp [hin]
    · simp only [hin, decide_false, if_false]; cases step s (l, v) <;> rfl
  | _ => rfl

theorem genLoop_cons_ok (k v : Value) (m : List (Value × Value)) (s s' : σ) (seen : List L) (hg : ∀ x ∈ seen, Good x) :
    genLoop keyFrom cmpL step ((k, v) :: m) s seen = .ok s' ↔
      ∃ l, keyFrom k = .ok l ∧ l ∉ seen ∧ ∃ s1, step s (l, v) = .ok s1 ∧ genLoop keyFrom cmpL step m s1 (seen ++ [l]) = .ok s' := by
  rw [genLoop_cons keyFrom cmpL step Good hk hc k v m s seen hg, Res.bind_eq_ok]
  refine exists_congr fun l => and_congr_right fun _ => ?_
  by_cases hin : l ∈ seen
  · simp [hin]
  · rw [if_neg hin, Res.bind_eq_ok]; simp [hin]

end

theorem genLoop_ok_iff {L σ : Type} [DecidableEq L] (keyFrom : Value → Res L) (cmpL : L → L → Res Ordering) (step : σ → L × Value → Res σ)
    (Good : L → Prop) (hk : ∀ k l, keyFrom k = .ok l → Good l)
    (hc : ∀ seen l, (∀ x ∈ seen, Good x) → Good l → setContains cmpL seen l = .ok (decide (l ∈ seen)))
    (m : List (Value × Value)) :
    ∀ (s s' : σ) (seen : List L), (∀ x ∈ seen, Good x) →
    (genLoop keyFrom cmpL step m s seen = .ok s' ↔
      ∃ ls, mapRes keyFrom (m.map (·.1)) = .ok ls ∧ FreshG seen ls ∧ foldRes step (ls.zip (m.map (·.2))) s = .ok s') := by
  induction m with
  | nil => intro s s' seen _; simp [genLoop, mapRes, FreshG, foldRes]
  | cons kv m ih =>
    intro s s' seen hg
    obtain ⟨k, v⟩ := kv
    have ih := fun l (hkl : keyFrom k = .ok l) s1 =>
      ih s1 s' (seen ++ [l]) (List.forall_mem_append.mpr ⟨hg, List.forall_mem_singleton.mpr (hk k l hkl)⟩)
    rw [genLoop_cons_ok keyFrom cmpL step Good hk hc k v m s s' seen hg]
    constructor
    · rintro ⟨l, hkl, hin, s1, hs, hloop⟩
      obtain ⟨ls, hls, hfr, hf⟩ := (ih l hkl s1).mp hloop
      exact ⟨l :: ls, (mapRes_cons_ok ..).mpr ⟨l, ls, hkl, hls, rfl⟩, (freshG_cons ..).mpr ⟨hin, hfr⟩, (foldRes_cons_ok ..).mpr ⟨s1, hs, hf⟩⟩
    · rintro ⟨_, hls, hfr, hf⟩
      obtain ⟨l, ls, hkl, hls', rfl⟩ := (mapRes_cons_ok ..).mp hls
      obtain ⟨hin, hfr'⟩ := (freshG_cons ..).mp hfr
      obtain ⟨s1, hs, hf'⟩ := (foldRes_cons_ok ..).mp hf
      exact ⟨l, hkl, hin, s1, hs, (ih l hkl s1).mpr ⟨ls, hls', hfr', hf'⟩⟩

section
variable {L σ : Type} [DecidableEq L] (keyFrom : Value → Res L) (cmpL : L → L → Res Ordering) (step : σ → L × Value → Res σ)
    (Good : L → Prop) (hk : ∀ k l, keyFrom k = .ok l → Good l)
    (hc : ∀ seen l, (∀ x ∈ seen, Good x) → Good l → setContains cmpL seen l = .ok (decide (l ∈ seen)))
include hk hc

theorem genLoop_ok_nil (m : List (Value × Value)) (s s' : σ) :
    genLoop keyFrom cmpL step m s [] = .ok s' ↔
      ∃ ls, mapRes keyFrom (m.map (·.1)) = .ok ls ∧ ls.Nodup ∧ foldRes step (ls.zip (m.map (·.2))) s = .ok s' := by
  rw [genLoop_ok_iff keyFrom cmpL step Good hk hc m s s' [] (by simp)]
  simp [FreshG]

/-- the loop run on what a structure emits (`kv l`: the key written for `l`). -/
theorem genLoop_emitted (kv : L → Value) (E : List (L × Value)) (s s' : σ) (hrt : ∀ l ∈ E.map (·.1), keyFrom (kv l) = .ok l)
    (hnd : (E.map (·.1)).Nodup) (hf : foldRes step E s = .ok s') :
    genLoop keyFrom cmpL step (E.map fun p => (kv p.1, p.2)) s [] = .ok s' := by
  have e1 : (E.map fun p => (kv p.1, p.2)).map (·.1) = (E.map (·.1)).map kv := by simp only [List.map_map]; rfl
  have e2 : (E.map (·.1)).zip ((E.map fun p => (kv p.1, p.2)).map (·.2)) = E := by
    rw [List.map_map]; exact (List.zip_map' ..).trans (List.map_id E)
  rw [genLoop_ok_nil keyFrom cmpL step Good hk hc, e1]
  exact ⟨_, mapRes_roundtrip keyFrom kv _ hrt, hnd, e2.symm ▸ hf⟩

/-- a repeated label met while everything before it was acceptable: `DuplicateMapKey`, whatever its value. -/
theorem genLoop_dup (p : List (Value × Value)) : ∀ (s sp : σ) (seen lp : List L) (k x : Value) (l : L) (q : List (Value × Value)),
    (∀ y ∈ seen, Good y) → mapRes keyFrom (p.map (·.1)) = .ok lp → FreshG seen lp → foldRes step (lp.zip (p.map (·.2))) s = .ok sp →
    keyFrom k = .ok l → l ∈ seen ++ lp → genLoop keyFrom cmpL step (p ++ (k, x) :: q) s seen = .err .duplicateMapKey := by
  induction p with
  | nil =>
    intro s sp seen lp k x l q hg hlp _ _ hkl hmem
    cases hlp
    rw [List.nil_append, genLoop_cons keyFrom cmpL step Good hk hc k x q s seen hg, hkl, Res.bind_ok, if_pos (by simpa using hmem)]
  | cons kv p ih =>
    intro s sp seen lp k x l q hg hlp hfr hfold hkl hmem
    obtain ⟨k0, v0⟩ := kv
    obtain ⟨l0, lp', hk0, hlp', rfl⟩ := (mapRes_cons_ok ..).mp hlp
    obtain ⟨hnin, hfr'⟩ := (freshG_cons ..).mp hfr
    obtain ⟨s1, hs1, hfold'⟩ := (foldRes_cons_ok ..).mp hfold
    rw [List.cons_append, genLoop_cons keyFrom cmpL step Good hk hc k0 v0 _ s seen hg, hk0, Res.bind_ok, if_neg hnin, hs1, Res.bind_ok]
    exact ih s1 sp (seen ++ [l0]) lp' k x l q (List.forall_mem_append.mpr ⟨hg, List.forall_mem_singleton.mpr (hk k0 l0 hk0)⟩) hlp' hfr'
      hfold' hkl (by simpa [or_assoc] using hmem)

theorem genLoop_dup_nil (p q : List (Value × Value)) (k x : Value) (l : L) (lp : List L) (s sp : σ)
    (hlp : mapRes keyFrom (p.map (·.1)) = .ok lp) (hnd : lp.Nodup) (hfold : foldRes step (lp.zip (p.map (·.2))) s = .ok sp)
    (hkl : keyFrom k = .ok l) (hmem : l ∈ lp) : genLoop keyFrom cmpL step (p ++ (k, x) :: q) s [] = .err .duplicateMapKey :=
  genLoop_dup keyFrom cmpL step Good hk hc p s sp [] lp k x l q nofun hlp ⟨hnd, fun _ _ => List.not_mem_nil⟩ hfold hkl
    (List.mem_append_right _ hmem)
end

theorem genLoop_err_append {L σ : Type} (keyFrom : Value → Res L) (cmpL : L → L → Res Ordering) (step : σ → L × Value → Res σ)
    (q : List (Value × Value)) (e : CoseErr) : ∀ (p : List (Value × Value)) (s : σ) (seen : List L),
    genLoop keyFrom cmpL step p s seen = .err e → genLoop keyFrom cmpL step (p ++ q) s seen = .err e
  | [], _, _ => nofun
  | (k, v) :: p, s, seen => by
    simp only [List.cons_append, genLoop]
    cases keyFrom k with
    | ok l =>
      dsimp only
      cases setContains cmpL seen l with
      | ok b =>
        cases b with
        | true => exact id
        | false =>
          dsimp only
          cases step s (l, v) with
          | ok s1 => exact genLoop_err_append keyFrom cmpL step q e p s1 _
          | _ => exact id
      | _ => exact id
    | _ => exact id

theorem zip_fst_of_mapRes {L : Type} (f : Value → Res L) (m : List (Value × Value)) (ls : List L)
    (h : mapRes f (m.map (·.1)) = .ok ls) : (ls.zip (m.map (·.2))).map (·.1) = ls :=
  List.map_fst_zip (by simp [mapRes_length _ _ _ h])

/-- what `fold_lookup` asks of the decoded pairs. -/
theorem zip_nodup_of_mapRes {L : Type} {f : Value → Res L} {m : List (Value × Value)} {ls : List L}
    (h : mapRes f (m.map (·.1)) = .ok ls) (hnd : ls.Nodup) : ((ls.zip (m.map (·.2))).map (·.1)).Nodup :=
  (zip_fst_of_mapRes f m ls h).symm ▸ hnd

end Coset
