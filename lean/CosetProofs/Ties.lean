/-
  Ties T for the parts of the code that are *text* rather than tables: the inventories the extractor regenerates from /repo/src on
  every run (`CosetGen`) are compared with the ones of the tree the model was transcribed from (`CosetRef/PinnedFacts.lean`): equal, for
  tables and textual facts whose presence matters; covered (nothing beyond the transcribed tree), for the inventories of panic and
  conversion sites and the decision budget, where only additions can hurt.  A new
  `unwrap` / index / subtraction in non-test code, a changed `as` / `try_into`, a `CborSerializable` impl that overrides a provided
  method, a changed body of `from_slice` / `to_vec` / `read_to_value`, a changed builder macro or guard, a changed routing of context
  constants, a field dropped from `Header::is_empty`: each is *found but different*, and breaks the kernel-checked comparison below —
  the theorems about the model then no longer speak about this source, whether or not any test input notices.

  Each fact lives in its own module under `CosetProofs/Ties/`; a property file imports only the facts it rests on, so a textual
  change to one inventory breaks the obligations of the properties that own it and no others.  This file only gathers them.
  (A coverage holds at once where the two inventories are equal, `Ties/Covered.lean`; only where they differ is it evaluated.)
-/
import CosetProofs.Ties.PanicSites
import CosetProofs.Ties.NarrowingSites
import CosetProofs.Ties.Serializable
import CosetProofs.Ties.Builders
import CosetProofs.Ties.ContextRouting
import CosetProofs.Ties.RecipientGuards
import CosetProofs.Ties.HeaderFields
import CosetProofs.Ties.RemoveFields
import CosetProofs.Ties.EmitOrder
import CosetProofs.Ties.IanaMacro
import CosetProofs.Ties.Budget.Header
import CosetProofs.Ties.Budget.Sign
import CosetProofs.Ties.Budget.Mac
import CosetProofs.Ties.Budget.Encrypt
import CosetProofs.Ties.Budget.Key
import CosetProofs.Ties.Budget.Cwt
import CosetProofs.Ties.Budget.Context
import CosetProofs.Ties.Budget.Common
import CosetProofs.Ties.Budget.Util
import CosetProofs.Ties.Budget.Iana
import CosetProofs.Ties.Compare.Header
import CosetProofs.Ties.Compare.Sign
import CosetProofs.Ties.Compare.Mac
import CosetProofs.Ties.Compare.Encrypt
import CosetProofs.Ties.Compare.Key
import CosetProofs.Ties.Compare.Cwt
import CosetProofs.Ties.Compare.Context
import CosetProofs.Ties.Compare.Common
import CosetProofs.Ties.Compare.Util
import CosetProofs.Ties.Compare.Iana
