/-
  C08 — header maps: accepted iff well-formed, and every field means what the wire said.
  The loop of the code against a lookup-based declarative reading: every field, any nesting position, any wire order of the entries.
-/
import CosetProofs.HeaderFields
import CosetProofs.Cbor.Encodings
namespace Coset.Props.C08
open Coset Coset.Spec

/-- C08 (⇒): whatever `Header::from_cbor_value` accepts is a map whose keys denote pairwise distinct labels, in which each
    standard parameter present has its RFC 8152 §3.1 shape, and the result's fields are exactly the wire values under their
    labels, absent parameters absent/empty, all other pairs kept unchanged in wire order; IV and Partial IV never both. -/
theorem accepted_is_wellformed (fuel d : Nat) (v : Value) (h : Header) (hok : Header.fromValue (fuel + 1) d v = .ok h) :
    ∃ m ls, v = .map m ∧ keyLabels m = .ok ls ∧ ls.Nodup ∧
      HeaderOf (counterSigArm d (CoseSignature.fromValue fuel (d - 1))) (ls.zip (m.map (·.2))) Header.default h ∧
      ¬ (h.iv ≠ [] ∧ h.partialIv ≠ []) := by
  obtain ⟨m, rfl, hloop⟩ := (header_ok_iff ..).mp hok
  obtain ⟨ls, hl, hnd, hfold⟩ := (headerLoop_ok_iff _ _ m _ _).mp hloop
  exact ⟨m, ls, rfl, hl, hnd, fold_headerOf d _ _ _ _ (zip_nodup_of_mapRes hl hnd) hfold,
    -- every step ends with the "not both" check (`headerStep_ok`)
    foldRes_invariant _ (fun h : Header => ¬ (h.iv ≠ [] ∧ h.partialIv ≠ [])) (fun _ _ _ _ hs => ((headerStep_ok ..).mp hs).2) _ _ h
      (by simp [Header.default, Header.iv]) hfold⟩

/-- C08 (⇐): a map whose keys denote pairwise distinct labels, each standard parameter present having its RFC 8152 §3.1 shape
    (`EntryOk`), IV and Partial IV not both present, is accepted — whatever the order of the entries. -/
theorem wellformed_is_accepted (fuel d : Nat) (m : List (Value × Value)) (ls : List Label)
    (hk : keyLabels m = .ok ls) (hnd : ls.Nodup)
    (hall : ∀ p ∈ ls.zip (m.map (·.2)), EntryOk d (CoseSignature.fromValue fuel (d - 1)) p.1 p.2)
    (hiv : ¬ (Label.int 5 ∈ ls ∧ Label.int 6 ∈ ls)) :
    ∃ h, Header.fromValue (fuel + 1) d (.map m) = .ok h := by
  obtain ⟨h, hf⟩ := headerFold_accepts d _ (ls.zip (m.map (·.2))) Header.default hall (by
    rw [zip_fst_of_mapRes _ m ls hk]; simpa [Header.default, Header.iv, Header.partialIv] using hiv)
  exact ⟨h, (header_ok_iff ..).mpr ⟨m, rfl, (headerLoop_ok_iff d _ m _ _).mpr ⟨ls, hk, hnd, hf⟩⟩⟩

/-- C08 as an equivalence. -/
theorem accepted_iff (fuel d : Nat) (v : Value) :
    (∃ h, Header.fromValue (fuel + 1) d v = .ok h) ↔
      ∃ m ls, v = .map m ∧ keyLabels m = .ok ls ∧ ls.Nodup ∧
        (∀ p ∈ ls.zip (m.map (·.2)), EntryOk d (CoseSignature.fromValue fuel (d - 1)) p.1 p.2) ∧ ¬ (Label.int 5 ∈ ls ∧ Label.int 6 ∈ ls) := by
  constructor
  · rintro ⟨h, hok⟩
    obtain ⟨m, ls, rfl, hk, hnd, ho, hnb⟩ := accepted_is_wellformed fuel d v h hok
    have hfst := zip_fst_of_mapRes _ m ls hk
    have hnd' := zip_nodup_of_mapRes hk hnd
    refine ⟨m, ls, rfl, hk, hnd, ?_, ?_⟩
    · rintro ⟨l, w⟩ hp
      refine ⟨?_, ?_, ?_, ?_, ?_⟩
      · rintro rfl; obtain ⟨a, h1, _⟩ := field_of_mem hnd' hp ho.alg; exact ⟨a, h1⟩
      · rintro rfl; obtain ⟨a, ls', h1, h2, h3, _⟩ := field_of_mem hnd' hp ho.crit; exact ⟨a, ls', h1, h2, h3⟩
      · rintro rfl; obtain ⟨c, h1, h2, _⟩ := field_of_mem hnd' hp ho.contentType; exact ⟨c, h1, h2⟩
      · rintro (rfl | rfl | rfl)
        · obtain ⟨b, h1, h2, _⟩ := field_of_mem hnd' hp ho.keyId; exact ⟨b, h1, h2⟩
        · obtain ⟨b, h1, h2, _⟩ := field_of_mem hnd' hp ho.iv; exact ⟨b, h1, h2⟩
        · obtain ⟨b, h1, h2, _⟩ := field_of_mem hnd' hp ho.partialIv; exact ⟨b, h1, h2⟩
      · rintro rfl; obtain ⟨ss, h1, _⟩ := field_of_mem hnd' hp ho.counterSignatures; exact ⟨ss, h1⟩
    · rintro ⟨h5, h6⟩
      rw [← hfst] at h5 h6
      obtain ⟨⟨_, w5⟩, m5, rfl⟩ := List.mem_map.mp h5
      obtain ⟨⟨_, w6⟩, m6, rfl⟩ := List.mem_map.mp h6
      obtain ⟨b5, _, n5, q5⟩ := field_of_mem hnd' m5 ho.iv
      obtain ⟨b6, _, n6, q6⟩ := field_of_mem hnd' m6 ho.partialIv
      exact hnb ⟨q5 ▸ n5, q6 ▸ n6⟩
  · rintro ⟨m, ls, rfl, hk, hnd, hall, hiv⟩
    exact wellformed_is_accepted fuel d m ls hk hnd hall hiv

theorem not_a_map_rejected (fuel d : Nat) (v : Value) (hv : ∀ m, v ≠ .map m) : ∀ h, Header.fromValue fuel d v ≠ .ok h := by
  intro h hok
  cases fuel with
  | zero => simp [Header.fromValue] at hok
  | succ f => obtain ⟨m, rfl, _⟩ := (header_ok_iff ..).mp hok; exact hv m rfl

/-- a counter signature value is one COSE_Signature (first element a byte string) or a non-empty array of them. -/
theorem counter_signature_shape (d : Nat) (sf : Value → Res CoseSignature) (v : Value) (ss : List CoseSignature)
    (h : counterSigArm d sf v = .ok ss) :
    ∃ a, v = .array a ∧ a ≠ [] ∧ d ≠ 0 ∧
      ((∃ b s, a.head? = some (.bytes b) ∧ sf (.array a) = .ok s ∧ ss = [s]) ∨ ((∃ x, a.head? = some (.array x)) ∧ mapRes sf a = .ok ss)) := by
  obtain ⟨hd, ⟨b, tl, s, rfl, hs, rfl⟩ | ⟨a0, tl, rfl, hm⟩⟩ := (counterSigArm_ok_iff d sf v ss).mp h
  · exact ⟨_, rfl, List.cons_ne_nil _ _, hd, .inl ⟨b, s, rfl, hs, rfl⟩⟩
  · exact ⟨_, rfl, List.cons_ne_nil _ _, hd, .inr ⟨⟨a0, rfl⟩, hm⟩⟩

/-- the outcome is a function of the CBOR data-model value: every encoding that parses to the same value decodes alike. -/
theorem depends_only_on_value (b1 b2 : Bytes) (v : Value) (h1 : readToValue b1 = .ok v) (h2 : readToValue b2 = .ok v) :
    fromSlice hdrFromValue b1 = fromSlice hdrFromValue b2 := by simp [fromSlice, h1, h2]

/-- … "not on how it was encoded", from the encodings themselves: any two well-formed encodings of one data-model value — whatever the
    width of each head, definite or indefinite lengths, however strings are chunked, integers plain or as bignum tags, floats in any
    width (`CosetSpec.Encodings`) — give the same outcome, namely that of the value. -/
theorem any_encoding (v : Value) (b1 b2 : Bytes) (h1 : Spec.Encodes v b1) (h2 : Spec.Encodes v b2) (hd : Cbor.depthOf v ≤ Cbor.recursionLimit) :
    fromSlice hdrFromValue b1 = fromSlice hdrFromValue b2 ∧ fromSlice hdrFromValue b1 = hdrFromValue v :=
  ⟨fromSlice_encoding_independent _ v b1 b2 h1 h2 hd, fromSlice_of_encodes _ v b1 h1 hd⟩

/-- two quite different encodings of `{1: -7, 4: h'3131'}`: shortest-form definite map, and an indefinite-length map with a two-byte
    key head and the byte string split into two chunks; both are encodings of that value in the sense of `Encodes`. -/
def hdrValue : Value := .map [(.int 1, .int (-7)), (.int 4, .bytes [0x31, 0x31])]
def hdrEnc1 : Spec.E := .map (some .w0) [(.pos .w0 1, .neg .w0 6), (.pos .w0 4, .bstr .w0 [0x31, 0x31])]
def hdrEnc2 : Spec.E := .map none [(.pos .w1 1, .neg .w2 6), (.pos .w0 4, .bstrI [(.w0, [0x31]), (.w1, [0x31])])]
example : hdrEnc1.bytes = [0xa2, 0x01, 0x26, 0x04, 0x42, 0x31, 0x31] ∧
    hdrEnc2.bytes = [0xbf, 0x18, 0x01, 0x39, 0x00, 0x06, 0x04, 0x5f, 0x41, 0x31, 0x58, 0x01, 0x31, 0xff, 0xff] := by decide
example : Spec.Encodes hdrValue hdrEnc1.bytes ∧ Spec.Encodes hdrValue hdrEnc2.bytes := by
  refine ⟨⟨hdrEnc1, ?_, by simp [hdrEnc1, hdrValue, Spec.E.value, Spec.E.valueP], rfl⟩,
    ⟨hdrEnc2, ?_, by simp [hdrEnc2, hdrValue, Spec.E.value, Spec.E.valueP, Spec.chunkContent], rfl⟩⟩
  · simp [hdrEnc1, Spec.E.wf, Spec.E.wfP, Spec.W.fits]
  · simp [hdrEnc2, Spec.E.wf, Spec.E.wfP, Spec.W.fits, Spec.chunksFit]

/-- non-vacuity: a map from bytes; six of the seven standard parameters (IV and Partial IV exclude each other) plus two extras are
    accepted; one violated rule each is rejected. -/
example : (fromSlice hdrFromValue [0xa2, 0x01, 0x26, 0x04, 0x42, 0x31, 0x31]).isOk = true := by decide +kernel
example : (hdrFromValue (.map [(.int 1, .int (-7)), (.int 2, .array [.int 1]), (.int 3, .text [0x61, 0x2f, 0x62]), (.int 4, .bytes [1]),
    (.int 5, .bytes [2]), (.int 7, .array [.bytes [], .map [], .bytes [9]]), (.int 99, .null), (.text [0x7a], .int 1)])).isOk = true := by decide +kernel
example : (hdrFromValue (.map [(.int 5, .bytes [1]), (.int 6, .bytes [2])])).errKind? = some .unexpectedItem := by decide +kernel
example : (hdrFromValue (.map [(.int 2, .array [])])).errKind? = some .unexpectedItem := by decide +kernel
example : (hdrFromValue (.map [(.int 3, .text [0x20, 0x61, 0x2f, 0x62])])).errKind? = some .unexpectedItem := by decide +kernel

#print axioms accepted_is_wellformed
#print axioms wellformed_is_accepted
#print axioms accepted_iff
#print axioms not_a_map_rejected
#print axioms counter_signature_shape
#print axioms depends_only_on_value
#print axioms any_encoding

end Coset.Props.C08
