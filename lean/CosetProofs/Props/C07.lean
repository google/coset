/-
  C07 — decode-encode reaches a fixed point in one step and loses nothing.

  (1) `Value` level, unconditional, every type: whatever `from_cbor_value` accepted, `to_cbor_value` of the result succeeds and
  `from_cbor_value` of *that* gives the same result (so a further encode gives the same value again).
  (2) Byte level: the emitted value goes through the serializer and the parser; that is the identity on values the serializer can
  represent faithfully (`Normal`: integers, lengths and tags in CBOR's range, valid UTF-8, a bignum tag over a short byte string only
  in the canonical form) that nest no deeper than the parser's budget (`depthOf ≤ recursionLimit`).
  (3) Byte level without a condition on the emitted value (`bytes_fixed`, `tagged_bytes_fixed` and their instances): what the parser
  returns is `Normal` and within the recursion budget (L6, L7) unless it holds a bignum tag over a short byte string in a form other
  than the canonical one — which can only come from the indefinite-length encoding — and what a decoded structure re-emits is no
  less well-behaved than the wire value (`TameConv`).  So beside a slice's length bound the only hypothesis left is `NoSB` on the
  *parsed input*: exactly the complement of the known finding D3, whose reality `small_bignum_not_fixed` proves.
-/
import CosetProofs.Cbor.ParseOutput
import CosetProofs.Roundtrip.ReemitMessages
import CosetProofs.Roundtrip.Key
import CosetProofs.Roundtrip.Claims
import CosetProofs.Roundtrip.KdfContext
namespace Coset.Props.C07
open Coset Coset.Cbor

/-- what C07 says of one type at `Value` level: accepted ⇒ re-emits ⇒ re-accepted with the same result. -/
def FixedPoint {α : Type} (conv : Value → Res α) (toV : α → Res Value) : Prop :=
  ∀ v t, conv v = .ok t → ∃ x, toV t = .ok x ∧ conv x = .ok t

theorem header : FixedPoint hdrFromValue Header.toValue := hdr_reemits.fixed
theorem header_any_depth (f d : Nat) : FixedPoint (Header.fromValue f d) Header.toValue := ((reemits_all f).1 d).fixed
theorem signature : FixedPoint sigFromValue CoseSignature.toValue := sig_reemits.fixed
theorem signature_any_depth (f d : Nat) : FixedPoint (CoseSignature.fromValue f d) CoseSignature.toValue := ((reemits_all f).2 d).fixed
/-- protected header inside a message (`from_cbor_bstr` / `cbor_bstr`): the byte string itself is reproduced. -/
theorem protected_bstr (v : Value) (p : ProtectedHeader) (h : phFromBstr v = .ok p) : ProtectedHeader.cborBstr p = .ok v ∧ phFromBstr v = .ok p :=
  ⟨protected_fixed _ _ v p h, h⟩
/-- protected header as a stand-alone value (`AsCborValue`: the header map, no stored bytes). -/
theorem protected_value : FixedPoint ProtectedHeader.fromValue ProtectedHeader.toValue := by
  have eq : ∀ v, ProtectedHeader.fromValue v = (hdrFromValue v).map (.mk none) := fun v => by
    unfold ProtectedHeader.fromValue; cases hdrFromValue v <;> rfl
  intro v p hp
  obtain ⟨h, hh, rfl⟩ := Res.map_eq_ok.mp (eq v ▸ hp)
  obtain ⟨x, h1, h2⟩ := header v h hh
  exact ⟨x, h1, eq x ▸ Res.map_ok_of h2⟩
theorem sign1 : FixedPoint CoseSign1.fromValue CoseSign1.toValue := sign1_reemits.fixed
theorem sign : FixedPoint CoseSign.fromValue CoseSign.toValue := sign_reemits.fixed
theorem mac0 : FixedPoint CoseMac0.fromValue CoseMac0.toValue := mac0_reemits.fixed
theorem mac : FixedPoint CoseMac.fromValue CoseMac.toValue := mac_reemits.fixed
theorem encrypt0 : FixedPoint CoseEncrypt0.fromValue CoseEncrypt0.toValue := encrypt0_reemits.fixed
theorem encrypt : FixedPoint CoseEncrypt.fromValue CoseEncrypt.toValue := encrypt_reemits.fixed
theorem recipient : FixedPoint rcpFromValue CoseRecipient.toValue := rcp_reemits.fixed
theorem key : FixedPoint CoseKey.fromValue CoseKey.toValue := key_reemits.fixed
theorem keyset : FixedPoint CoseKeySet.fromValue CoseKeySet.toValue := keyset_reemits.fixed
theorem claims : FixedPoint ClaimsSet.fromValue ClaimsSet.toValue := claims_reemits.fixed
theorem party_info : FixedPoint PartyInfo.fromValue PartyInfo.toValue := party_reemits.fixed
theorem supp_pub_info : FixedPoint SuppPubInfo.fromValue SuppPubInfo.toValue := supp_reemits.fixed
theorem kdf_context : FixedPoint CoseKdfContext.fromValue CoseKdfContext.toValue := kdf_reemits.fixed

/-- for the KDF context and its parts the emitted value is the decoded value itself (nothing is normalised). -/
theorem kdf_context_emits_input (v : Value) (k : CoseKdfContext) (h : CoseKdfContext.fromValue v = .ok k) : k.toValue = .ok v := kdf_emit v k h

/-- one step is enough: the value emitted for a decode result is emitted again for the re-decoded result (same result, same function). -/
theorem one_step {α : Type} (conv : Value → Res α) (toV : α → Res Value) (hf : FixedPoint conv toV) (v : Value) (t : α) (h : conv v = .ok t) :
    ∃ x, toV t = .ok x ∧ ∃ t', conv x = .ok t' ∧ toV t' = .ok x := by
  obtain ⟨x, h1, h2⟩ := hf v t h
  exact ⟨x, h1, t, h2, h1⟩

/-- `from_slice`/`to_vec`: if `b` decodes to `t`, then `t` encodes to some `b'`; when the emitted value is one the serializer
    represents faithfully, `b'` decodes to `t` and encoding that gives `b'` again. -/
theorem bytes_partial {α : Type} (conv : Value → Res α) (toV : α → Res Value) (hf : FixedPoint conv toV) (b : Bytes) (t : α)
    (hd : fromSlice conv b = .ok t) :
    ∃ x, toVec toV t = .ok (enc x) ∧ toV t = .ok x ∧
      (Normal x → depthOf x ≤ recursionLimit → fromSlice conv (enc x) = .ok t ∧ ∀ t', fromSlice conv (enc x) = .ok t' → toVec toV t' = .ok (enc x)) := by
  obtain ⟨v, _, hc⟩ := fromSlice_ok hd
  obtain ⟨x, h1, h2⟩ := hf v t hc
  refine ⟨x, toVec_of_ok h1, h1, fun hn hdp => ?_⟩
  have hre : fromSlice conv (enc x) = .ok t := (fromSlice_enc conv hn hdp).trans h2
  exact ⟨hre, fun t' ht' => by cases hre.symm.trans ht'; exact toVec_of_ok h1⟩

theorem tagged_fixedPoint {α : Type} {tag : Nat} {conv : Value → Res α} {toV : α → Res Value} (hf : FixedPoint conv toV) :
    FixedPoint (untag tag conv) (retag tag toV) := by
  intro v t h
  obtain ⟨inner, rfl, hc⟩ := untag_ok.mp h
  obtain ⟨x, h1, h2⟩ := hf inner t hc
  exact ⟨.tag tag x, retag_ok.mpr ⟨x, h1, rfl⟩, untag_ok.mpr ⟨x, rfl, h2⟩⟩

/-- the tagged forms (`from_tagged_slice` / `to_tagged_vec`). -/
theorem tagged_bytes_partial {α : Type} (tag : Nat) (conv : Value → Res α) (toV : α → Res Value) (hf : FixedPoint conv toV) (b : Bytes) (t : α)
    (hd : fromTaggedSlice tag conv b = .ok t) :
    ∃ x, toTaggedVec tag toV t = .ok (enc (.tag tag x)) ∧ toV t = .ok x ∧
      (Normal (.tag tag x) → depthOf (.tag tag x) ≤ recursionLimit →
        fromTaggedSlice tag conv (enc (.tag tag x)) = .ok t ∧
        ∀ t', fromTaggedSlice tag conv (enc (.tag tag x)) = .ok t' → toTaggedVec tag toV t' = .ok (enc (.tag tag x))) := by
  simp only [fromTaggedSlice_eq, toTaggedVec_eq] at hd ⊢
  obtain ⟨y, h1, h2, h3⟩ := bytes_partial _ _ (tagged_fixedPoint hf) b t hd
  obtain ⟨x, hx, rfl⟩ := retag_ok.mp h2
  exact ⟨x, h1, hx, h3⟩

/-- the six taggable message types, with the tags regenerated from the source: each satisfies the premise of `tagged_bytes_partial`. -/
theorem tagged_types :
    FixedPoint CoseSign1.fromValue CoseSign1.toValue ∧ FixedPoint CoseSign.fromValue CoseSign.toValue ∧
    FixedPoint CoseMac0.fromValue CoseMac0.toValue ∧ FixedPoint CoseMac.fromValue CoseMac.toValue ∧
    FixedPoint CoseEncrypt0.fromValue CoseEncrypt0.toValue ∧ FixedPoint CoseEncrypt.fromValue CoseEncrypt.toValue ∧
    [Gen.TAG_CoseSign1, Gen.TAG_CoseSign, Gen.TAG_CoseMac0, Gen.TAG_CoseMac, Gen.TAG_CoseEncrypt0, Gen.TAG_CoseEncrypt] = [18, 98, 17, 97, 16, 96] :=
  ⟨sign1, sign, mac0, mac, encrypt0, encrypt, by decide⟩

/-- `from_slice` / `to_vec`: if `b` (a Rust slice: shorter than 2^63 bytes) decodes to `t` and the parsed item holds no short bignum tag
    outside the canonical form, then `t` encodes to some `b'`, `b'` decodes to `t`, and whatever `b'` decodes to encodes to `b'` again. -/
theorem bytes_fixed {α : Type} (conv : Value → Res α) (toV : α → Res Value) (hf : FixedPoint conv toV) (ht : TameConv conv toV)
    (b : Bytes) (t : α) (hd : fromSlice conv b = .ok t) (hl : b.length < 2 ^ 63) (hs : ∀ v, readToValue b = .ok v → NoSB v) :
    ∃ b', toVec toV t = .ok b' ∧ fromSlice conv b' = .ok t ∧ ∀ t', fromSlice conv b' = .ok t' → toVec toV t' = .ok b' := by
  obtain ⟨x, h1, h2, h3⟩ := bytes_partial conv toV hf b t hd
  obtain ⟨v, hr, hc⟩ := fromSlice_ok hd
  obtain ⟨hn, hdp⟩ := readToValue_normal b v hr (by omega) (hs v hr)
  have hz := readToValue_size b v hr
  obtain ⟨y, hy, hyn, hyd⟩ := ht v t hc hn (by unfold sliceMax; omega)
  cases h2.symm.trans hy
  obtain ⟨h4, h5⟩ := h3 hyn (by omega)
  exact ⟨enc x, h1, h4, h5⟩

/-- a tag other than the bignum tags counts one level of nesting whatever it is applied to, and is never folded. -/
theorem tagged_tameConv {α : Type} {tag : Nat} {conv : Value → Res α} {toV : α → Res Value} (htag : tag ≠ 2 ∧ tag ≠ 3)
    (ht : TameConv conv toV) : TameConv (untag tag conv) (retag tag toV) := by
  intro v t h hn hz
  obtain ⟨inner, rfl, hc⟩ := untag_ok.mp h
  have hsb : ∀ w, ¬ SmallBignum tag w := fun w hw => by have := hw.1; omega
  simp only [Normal] at hn
  simp only [Value.size] at hz
  obtain ⟨y, hy, hyn, hyd⟩ := ht inner t hc hn.2.2 (by omega)
  refine ⟨.tag tag y, retag_ok.mpr ⟨y, hy, rfl⟩, ⟨hn.1, fun h => absurd h (hsb y), hyn⟩, ?_⟩
  rw [depthOf_tag_of_not_small _ _ (hsb y), depthOf_tag_of_not_small _ _ (hsb inner)]
  exact Nat.succ_le_succ hyd

/-- the tagged forms (`from_tagged_slice` / `to_tagged_vec`) of the six message types (their tags are not the bignum tags 2 and 3). -/
theorem tagged_bytes_fixed {α : Type} (tag : Nat) (htag : tag ≠ 2 ∧ tag ≠ 3) (conv : Value → Res α) (toV : α → Res Value)
    (hf : FixedPoint conv toV) (ht : TameConv conv toV)
    (b : Bytes) (t : α) (hd : fromTaggedSlice tag conv b = .ok t) (hl : b.length < 2 ^ 63) (hs : ∀ v, readToValue b = .ok v → NoSB v) :
    ∃ b', toTaggedVec tag toV t = .ok b' ∧ fromTaggedSlice tag conv b' = .ok t ∧
      ∀ t', fromTaggedSlice tag conv b' = .ok t' → toTaggedVec tag toV t' = .ok b' := by
  simp only [fromTaggedSlice_eq, toTaggedVec_eq] at hd ⊢
  exact bytes_fixed _ _ (tagged_fixedPoint hf) (tagged_tameConv htag ht) b t hd hl hs

/-- every type satisfies the premise `TameConv` of `bytes_fixed`. -/
theorem all_types_tame :
    TameConv hdrFromValue Header.toValue ∧ TameConv sigFromValue CoseSignature.toValue ∧
    TameConv CoseSign1.fromValue CoseSign1.toValue ∧ TameConv CoseSign.fromValue CoseSign.toValue ∧
    TameConv CoseMac0.fromValue CoseMac0.toValue ∧ TameConv CoseMac.fromValue CoseMac.toValue ∧
    TameConv CoseEncrypt0.fromValue CoseEncrypt0.toValue ∧ TameConv CoseEncrypt.fromValue CoseEncrypt.toValue ∧
    TameConv rcpFromValue CoseRecipient.toValue ∧ TameConv CoseKey.fromValue CoseKey.toValue ∧
    TameConv CoseKeySet.fromValue CoseKeySet.toValue ∧ TameConv ClaimsSet.fromValue ClaimsSet.toValue ∧
    TameConv PartyInfo.fromValue PartyInfo.toValue ∧ TameConv SuppPubInfo.fromValue SuppPubInfo.toValue ∧
    TameConv CoseKdfContext.fromValue CoseKdfContext.toValue :=
  ⟨hdr_reemits.tame, sig_reemits.tame, sign1_reemits.tame, sign_reemits.tame, mac0_reemits.tame, mac_reemits.tame, encrypt0_reemits.tame,
   encrypt_reemits.tame, rcp_reemits.tame, key_reemits.tame, keyset_reemits.tame, claims_reemits.tame, party_reemits.tame, supp_reemits.tame,
   kdf_reemits.tame⟩

theorem sign1_bytes (b : Bytes) (m : CoseSign1) (hd : fromSlice CoseSign1.fromValue b = .ok m) (hl : b.length < 2 ^ 63)
    (hs : ∀ v, readToValue b = .ok v → NoSB v) :
    ∃ b', toVec CoseSign1.toValue m = .ok b' ∧ fromSlice CoseSign1.fromValue b' = .ok m ∧
      ∀ m', fromSlice CoseSign1.fromValue b' = .ok m' → toVec CoseSign1.toValue m' = .ok b' :=
  bytes_fixed _ _ sign1 sign1_reemits.tame b m hd hl hs

theorem sign1_tagged_bytes (b : Bytes) (m : CoseSign1) (hd : fromTaggedSlice Gen.TAG_CoseSign1 CoseSign1.fromValue b = .ok m)
    (hl : b.length < 2 ^ 63) (hs : ∀ v, readToValue b = .ok v → NoSB v) :
    ∃ b', toTaggedVec Gen.TAG_CoseSign1 CoseSign1.toValue m = .ok b' ∧ fromTaggedSlice Gen.TAG_CoseSign1 CoseSign1.fromValue b' = .ok m ∧
      ∀ m', fromTaggedSlice Gen.TAG_CoseSign1 CoseSign1.fromValue b' = .ok m' → toTaggedVec Gen.TAG_CoseSign1 CoseSign1.toValue m' = .ok b' :=
  tagged_bytes_fixed _ (by decide) _ _ sign1 sign1_reemits.tame b m hd hl hs

theorem header_bytes (b : Bytes) (h : Header) (hd : fromSlice hdrFromValue b = .ok h) (hl : b.length < 2 ^ 63)
    (hs : ∀ v, readToValue b = .ok v → NoSB v) :
    ∃ b', toVec Header.toValue h = .ok b' ∧ fromSlice hdrFromValue b' = .ok h ∧
      ∀ h', fromSlice hdrFromValue b' = .ok h' → toVec Header.toValue h' = .ok b' :=
  bytes_fixed _ _ header hdr_reemits.tame b h hd hl hs

theorem key_bytes (b : Bytes) (k : CoseKey) (hd : fromSlice CoseKey.fromValue b = .ok k) (hl : b.length < 2 ^ 63)
    (hs : ∀ v, readToValue b = .ok v → NoSB v) :
    ∃ b', toVec CoseKey.toValue k = .ok b' ∧ fromSlice CoseKey.fromValue b' = .ok k ∧
      ∀ k', fromSlice CoseKey.fromValue b' = .ok k' → toVec CoseKey.toValue k' = .ok b' :=
  bytes_fixed _ _ key key_reemits.tame b k hd hl hs

/-- premise of `tagged_bytes_fixed` for the six taggable types. -/
theorem message_tags_not_bignum :
    ∀ t ∈ [Gen.TAG_CoseSign1, Gen.TAG_CoseSign, Gen.TAG_CoseMac0, Gen.TAG_CoseMac, Gen.TAG_CoseEncrypt0, Gen.TAG_CoseEncrypt], t ≠ 2 ∧ t ≠ 3 := by decide

/-- `impl CborSerializable for Value` itself. -/
theorem value_bytes (b : Bytes) (v : Value) (h : readToValue b = .ok v) (hl : b.length < 2 ^ 63) (hs : NoSB v) : readToValue (enc v) = .ok v :=
  let ⟨hn, hd⟩ := readToValue_normal b v h (by omega) hs
  readToValue_enc v hn hd

/-- non-vacuity of `NoSB`: the parsed form of an ordinary non-canonical input satisfies it, and D3's tagged value does not. -/
example : (match readToValue [0xbf, 0x04, 0x41, 0x01, 0x01, 0x18, 0x05, 0xff] with
    | .ok (.map [(.int 4, .bytes [1]), (.int 1, .int 5)]) => true | _ => false) = true := by decide +kernel
example : NoSB (.map [(.int 4, .bytes [1]), (.int 1, .int 5)]) := by simp [NoSB, NoSBP]
example : ¬ NoSB (.tag 2 (.bytes [1])) := by
  intro h
  simp only [NoSB] at h
  obtain ⟨raw, h64, h2, _, he⟩ := h.1 ⟨Or.inl rfl, [1], rfl, by simp⟩
  have hr := h2 rfl
  have hm : minBytes raw = [1] := by injection he with he; exact he.symm
  have h1 := beVal_minBytes raw hr
  rw [hm] at h1
  have h0 : beVal [1] = 1 := rfl
  omega

/-! ### the exception is real (known finding D3) -/

def firstRestIsTag (h : Header) : Bool := match h.rest with
  | (_, .tag _ _) :: _ => true
  | _ => false

/-- `a1 0a c2 5f 41 01 ff` — header `{10: 2(_ h'01')}`: tag 2 over an *indefinite-length* one-byte string.  ciborium keeps the tag
    here (it folds only definite-length strings), coset stores the tagged value, re-encoding writes `c2 41 01`, and the parser now
    folds that into the integer 1: the re-decoded header differs from the decoded one. -/
def d3Input : Bytes := [0xa1, 0x0a, 0xc2, 0x5f, 0x41, 0x01, 0xff]

theorem small_bignum_not_fixed :
    (match fromSlice hdrFromValue d3Input with
     | .ok h => firstRestIsTag h &&
        (match toVec Header.toValue h with
         | .ok b' => (match fromSlice hdrFromValue b' with
            | .ok h' => !firstRestIsTag h'
            | _ => false)
         | _ => false)
     | _ => false) = true := by decide +kernel

/-- non-vacuity of `header_bytes`: the non-canonical input of the `NoSB` examples above (indefinite-length map, non-minimal integer
    width, unsorted keys) is accepted by `from_slice`. -/
example : (fromSlice hdrFromValue [0xbf, 0x04, 0x41, 0x01, 0x01, 0x18, 0x05, 0xff]).isOk = true := by decide +kernel

#print axioms header
#print axioms header_any_depth
#print axioms signature
#print axioms signature_any_depth
#print axioms protected_bstr
#print axioms protected_value
#print axioms sign1
#print axioms sign
#print axioms mac0
#print axioms mac
#print axioms encrypt0
#print axioms encrypt
#print axioms recipient
#print axioms key
#print axioms keyset
#print axioms claims
#print axioms party_info
#print axioms supp_pub_info
#print axioms kdf_context
#print axioms kdf_context_emits_input
#print axioms one_step
#print axioms bytes_partial
#print axioms tagged_bytes_partial
#print axioms tagged_types
#print axioms small_bignum_not_fixed
#print axioms bytes_fixed
#print axioms tagged_bytes_fixed
#print axioms all_types_tame
#print axioms sign1_bytes
#print axioms sign1_tagged_bytes
#print axioms header_bytes
#print axioms key_bytes
#print axioms message_tags_not_bignum
#print axioms value_bytes

end Coset.Props.C07
