/-
  C15 — integers are decoded exactly or rejected as out of range, never wrapped.  Every site that narrows a wire integer goes through
  `narrowI64` / `narrowU64`, which is a range test and nothing else; the theorems after them read the same test off each site.  The
  map decoders convert and check one entry after the other (`genLoop`), so an error met on a prefix of a map is the error of the whole
  map: an out-of-range integer is reported as such whatever follows it.
-/
import CosetProofs.Cbor.Roundtrip
import CosetModel.Api
import CosetProofs.ClaimsLoop
import CosetProofs.HeaderLoop
import CosetProofs.Shapes
import CosetProofs.Props.C17
namespace Coset.Props.C15
open Coset Coset.Cbor

/-- `narrowI64`, which every i64 site calls: exact value inside the range, `OutOfRangeIntegerValue` outside. -/
theorem narrow_i64 (n : Int) :
    (i64Min ≤ n ∧ n ≤ i64Max → narrowI64 n = .ok n) ∧ (¬ (i64Min ≤ n ∧ n ≤ i64Max) → narrowI64 n = .err .outOfRange) :=
  ⟨fun h => if_pos h, fun h => if_neg h⟩

theorem narrow_u64 (n : Int) :
    (0 ≤ n ∧ n ≤ u64Max → narrowU64 n = .ok n) ∧ (¬ (0 ≤ n ∧ n ≤ u64Max) → narrowU64 n = .err .outOfRange) :=
  ⟨fun h => if_pos h, fun h => if_neg h⟩

/-- a narrowing site never returns a different number (no truncation, wrap-around, saturation or sign flip). -/
theorem narrow_exact (n m : Int) : (narrowI64 n = .ok m → m = n) ∧ (narrowU64 n = .ok m → m = n) :=
  ⟨fun h => (narrowI64_ok.mp h).2, fun h => (narrowU64_ok.mp h).2⟩

theorem label (n : Int) :
    Label.fromValue (.int n) = if i64Min ≤ n ∧ n ≤ i64Max then .ok (.int n) else .err .outOfRange := by
  by_cases h : i64Min ≤ n ∧ n ≤ i64Max <;> simp [Label.fromValue, narrowI64, h]

theorem registered_label_out_of_range (R : Registry) (n : Int) (h : ¬ (i64Min ≤ n ∧ n ≤ i64Max)) :
    RegLabel.fromValue R (.int n) = .err .outOfRange ∧ RegLabelPriv.fromValue R (.int n) = .err .outOfRange :=
  C17.classify_out_of_range R n h

/-- in range, the registry labels carry exactly the wire integer (as the registered name for it, or as private use). -/
theorem registered_label_exact (R : Registry) (n : Int) (l : RegLabelPriv) (h : RegLabelPriv.fromValue R (.int n) = .ok l) :
    RegLabelPriv.toValue R l = .ok (.int n) := by
  rw [RegLabelPriv.toValue_eq, RegLabelPriv.value_of_fromValue R _ l h]

theorem timestamp (n : Int) :
    Timestamp.fromValue (.int n) = if i64Min ≤ n ∧ n ≤ i64Max then .ok (.wholeSeconds n) else .err .outOfRange := by
  by_cases h : i64Min ≤ n ∧ n ≤ i64Max <;> simp [Timestamp.fromValue, narrowI64, h]

theorem timestamp_float (b : UInt64) : Timestamp.fromValue (.float b) = .ok (.fractionalSeconds b) := rfl

/-- nonce position of PartyInfo. -/
theorem nonce (a c : Value) (n : Int) (ha : nullOrBytes a = .ok ia) (hc : nullOrBytes c = .ok ic) :
    PartyInfo.fromValue (.array [a, .int n, c]) =
      if i64Min ≤ n ∧ n ≤ i64Max then .ok ⟨ia, some (.integer n), ic⟩ else .err .outOfRange := by
  rw [nullOrBytes_eq] at ha hc
  rw [party_eq]
  by_cases h : i64Min ≤ n ∧ n ≤ i64Max <;> simp [ha, hc, nonceOf, narrowI64, h]

/-- key data length: 64-bit unsigned. -/
theorem key_data_length (n : Int) (p : Value) (ph : ProtectedHeader) (hp : phFromBstr p = .ok ph) :
    SuppPubInfo.fromValue (.array [.int n, p]) =
      if 0 ≤ n ∧ n ≤ u64Max then .ok ⟨n, ph, none⟩ else .err .outOfRange := by
  rw [supp_eq]
  by_cases h : 0 ≤ n ∧ n ≤ u64Max <;> simp [hp, tryAsInteger, narrowU64, h]

/-- header labels out of i64 range are rejected with the out-of-range error, whatever follows. -/
theorem header_label_out_of_range (n : Int) (v : Value) (rest : List (Value × Value)) (h : ¬ (i64Min ≤ n ∧ n ≤ i64Max)) :
    hdrFromValue (.map ((.int n, v) :: rest)) = .err .outOfRange := by
  simp [hdrFromValue, topFuel, Header.fromValue, tryAsMap, headerLoop, label, h]

theorem key_label_out_of_range (n : Int) (v : Value) (rest : List (Value × Value)) (h : ¬ (i64Min ≤ n ∧ n ≤ i64Max)) :
    CoseKey.fromValue (.map ((.int n, v) :: rest)) = .err .outOfRange := by
  simp [CoseKey.fromValue, tryAsMap, keyLoop, label, h]

theorem claim_name_out_of_range (n : Int) (v : Value) (rest : List (Value × Value)) (h : ¬ (i64Min ≤ n ∧ n ≤ i64Max)) :
    ClaimsSet.fromValue (.map ((.int n, v) :: rest)) = .err .outOfRange := by
  simp [ClaimsSet.fromValue, claimsLoop, (registered_label_out_of_range _ n h).2]

/-- every integer of CBOR's range [-2^64, 2^64-1] is read back exactly from its (deterministic) encoding. -/
theorem wire_exact (n : Int) (h : -(2 ^ 64 : Int) ≤ n ∧ n < 2 ^ 64) (s : Bytes) :
    parse (fuel + 1) d (enc (.int n) ++ s) = .ok (.int n, s) :=
  parse_enc (.int n) (fuel + 1) d s (by simpa [Normal] using h) (by simp [depthOf]) (by simp [nsize])

/-- every supported field value encodes to a CBOR integer of the same value, which decodes to it again. -/
theorem widen (n : Int) (h : i64Min ≤ n ∧ n ≤ i64Max) :
    Label.toValue (.int n) = .ok (.int n) ∧ readToValue (enc (.int n)) = .ok (.int n) ∧ Label.fromValue (.int n) = .ok (.int n) := by
  refine ⟨rfl, ?_, ?_⟩
  · exact readToValue_enc (.int n) (by simp [Normal]; unfold i64Min i64Max at h; omega) (by simp [depthOf])
  · exact (label n).trans (if_pos h)

/-- integers in uninterpreted positions (values of extra parameters) are copied, whatever their magnitude. -/
theorem uninterpreted_preserved (l : Label) (v : Value) (h : Header) (hl : l ≠ hALG ∧ l ≠ hCRIT ∧ l ≠ hCONTENT_TYPE ∧ l ≠ hKID ∧ l ≠ hIV ∧ l ≠ hPARTIAL_IV ∧ l ≠ hCOUNTER_SIG)
    (d : Nat) (sf : Value → Res CoseSignature) :
    headerDispatch d sf l v h = .ok (h.setRest (h.rest ++ [(l, v)])) := by
  simp [headerDispatch, hl]

/-- non-vacuity: 2^63 as a header label is out of range; -2^63 as a timestamp decodes to exactly that. -/
example : hdrFromValue (.map [(.int 9223372036854775808, .null)]) = .err .outOfRange :=
  header_label_out_of_range _ _ _ (by decide)
example : Timestamp.fromValue (.int (-9223372036854775808)) = .ok (.wholeSeconds (-9223372036854775808)) := by decide

/-! Were the keys of a map all converted before its values, a bad key further on would pre-empt an out-of-range integer in front of it. -/

/-- a header map that fails with `e` on a prefix fails with `e` however it continues (`genLoop_err_append`) — in particular an
    out-of-range integer (a label, an algorithm, a critical label, a content format) is reported as out of range whatever follows it, and
    a repeated label as a duplicate key. -/
theorem header_first_fault_decides (fuel d : Nat) (p q : List (Value × Value)) (x : Value × Value) (e : CoseErr)
    (h : Header.fromValue (fuel + 1) d (.map (p ++ [x])) = .err e) : Header.fromValue (fuel + 1) d (.map (p ++ x :: q)) = .err e := by
  simp only [Header.fromValue, tryAsMap, headerLoop_eq_gen] at h ⊢
  rw [List.append_cons]
  exact genLoop_err_append _ _ _ q e _ _ _ h

/-- non-vacuity: `{1: 2^64-1}` fails as out of range, and so does `{1: 2^64-1, h'01': 0}` — not with the type error of the later key. -/
example : Header.fromValue 3 16 (.map ([] ++ (Value.int 1, Value.int 18446744073709551615) :: [(Value.bytes [1], Value.int 0)])) = .err .outOfRange :=
  header_first_fault_decides 2 16 [] _ _ _ (by rfl)

/-- the same for key maps … -/
theorem key_first_fault_decides (p q : List (Value × Value)) (x : Value × Value) (e : CoseErr)
    (h : keyLoop (p ++ [x]) CoseKey.default [] = .err e) : CoseKey.fromValue (.map (p ++ x :: q)) = .err e := by
  rw [keyLoop_eq_gen] at h
  simp only [CoseKey.fromValue, tryAsMap, keyLoop_eq_gen, List.append_cons p x q, genLoop_err_append _ _ _ q e _ _ _ h]

/-- … and for claims sets (a repeated claim name is reported as a duplicate key whatever follows it). -/
theorem claims_first_fault_decides (p q : List (Value × Value)) (x : Value × Value) (e : CoseErr)
    (h : ClaimsSet.fromValue (.map (p ++ [x])) = .err e) : ClaimsSet.fromValue (.map (p ++ x :: q)) = .err e := by
  simp only [ClaimsSet.fromValue, claimsLoop_eq_gen] at h ⊢
  rw [List.append_cons]
  exact genLoop_err_append _ _ _ q e _ _ _ h

/-- non-vacuity: `{1: "a", 1: "b"}` is a duplicate key, and so is `{1: "a", 1: "b", 100: 0}` — not the unregistered name that follows. -/
example : ClaimsSet.fromValue (.map ([(Value.int 1, Value.text [97])] ++ (Value.int 1, Value.text [98]) :: [(Value.int 100, Value.int 0)])) = .err .duplicateMapKey :=
  claims_first_fault_decides _ _ _ _ (by rfl)

#print axioms header_first_fault_decides
#print axioms key_first_fault_decides
#print axioms claims_first_fault_decides

#print axioms narrow_i64
#print axioms narrow_u64
#print axioms narrow_exact
#print axioms label
#print axioms registered_label_out_of_range
#print axioms registered_label_exact
#print axioms timestamp
#print axioms timestamp_float
#print axioms nonce
#print axioms key_data_length
#print axioms header_label_out_of_range
#print axioms key_label_out_of_range
#print axioms claim_name_out_of_range
#print axioms wire_exact
#print axioms widen
#print axioms uninterpreted_preserved

end Coset.Props.C15
