/-
  C11 — encoding emits exactly the modelled content in the documented CBOR shape, and decoding it returns the original value.

  `Header.WF` / `CoseKey.WF` / … are the well-formedness conditions (explicit, field by field); for each type `to_cbor_value`
  succeeds and *is* the prescribed structure, written out, and `from_cbor_value` of it returns the value, protected headers now carrying
  the bytes the encoder assigned (`erase` forgets exactly those).  The byte level is the serializer: `to_vec = enc ∘ to_cbor_value`
  and `enc` is inverted by the independent parser model on every value it represents faithfully.
-/
import CosetProofs.Roundtrip.EmitNormal
namespace Coset.Props.C11
open Coset Coset.Cbor Coset.Spec

/-- header map: the populated typed fields once each under labels 1–6 in this order (`typedL`), then the counter-signature entry under 7
    (`csValue`), then the extra parameters in their given order. -/
theorem header_emits (alg crit ct kid iv piv cs rest) (ov : Option Value) (hcs : csValue cs = .ok ov) (hr : RestGood rest) :
    Header.toValue (.mk alg crit ct kid iv piv cs rest) = .ok (.map (pairsToValue (typedL alg crit ct kid iv piv ++ csL ov ++ rest))) :=
  Header.toValue_entries alg crit ct kid iv piv cs rest ov hcs hr

/-- the typed entries: one per populated field, under its registered label, with exactly its value; empty fields contribute nothing. -/
theorem typed_entries (alg : Option RegLabelPriv) (crit : List RegLabel) (ct : Option RegLabel) (kid iv piv : Bytes) (e : Label × Value) :
    e ∈ typedL alg crit ct kid iv piv ↔
      (∃ a, alg = some a ∧ e = (.int 1, RegLabelPriv.value Reg.algorithm a)) ∨
      (crit ≠ [] ∧ e = (.int 2, .array (crit.map (RegLabel.value Reg.headerParameter)))) ∨
      (∃ c, ct = some c ∧ e = (.int 3, RegLabel.value Reg.coapContentFormat c)) ∨
      (kid ≠ [] ∧ e = (.int 4, .bytes kid)) ∨ (iv ≠ [] ∧ e = (.int 5, .bytes iv)) ∨ (piv ≠ [] ∧ e = (.int 6, .bytes piv)) := by
  simp only [typedL, List.mem_append, List.mem_map, Option.mem_toList, List.mem_ite_nil_right, List.mem_singleton, Bool.not_eq_true',
    List.isEmpty_eq_false_iff, ne_eq, or_assoc, eq_comm (a := e)]

/-- no label is emitted twice among the typed entries, and they come in ascending label order. -/
theorem typed_labels_once (alg crit ct kid iv piv) :
    List.Sublist ((typedL alg crit ct kid iv piv).map (·.1)) [.int 1, .int 2, .int 3, .int 4, .int 5, .int 6] := typedL_labels alg crit ct kid iv piv

/-- a single counter-signature is inlined, several are an array, none is no entry. -/
theorem counter_signature_forms (s s2 : CoseSignature) (ss : List CoseSignature) (v : Value) (vs : List Value)
    (h1 : CoseSignature.toValue s = .ok v) (hs : sigsToValues (s :: s2 :: ss) = .ok vs) :
    csValue [] = .ok none ∧ csValue [s] = .ok (some v) ∧ csValue (s :: s2 :: ss) = .ok (some (.array vs)) :=
  ⟨rfl, (csValue_single s).trans (Res.map_ok_of h1), (csValue_many s s2 ss).trans (Res.map_ok_of hs)⟩

/-- the emptiness test: a header is "empty" only if *every* field is — counter-signatures only or extra parameters only is not empty. -/
theorem isEmpty_iff (h : Header) : h.isEmpty = true ↔ h = Header.default :=
  ⟨isEmpty_default h, fun e => by subst e; rfl⟩

/-- protected header: stored bytes verbatim; a built empty header is the zero-length string; any other is the string wrapping its encoded map. -/
theorem protected_emits (h : Header) (data : Bytes) (x : Value) (hx : Header.toValue h = .ok x) :
    ProtectedHeader.cborBstr (.mk (some data) h) = .ok (.bytes data) ∧
    (h.isEmpty = true → ProtectedHeader.cborBstr (.mk none h) = .ok (.bytes [])) ∧
    (h.isEmpty = false → ProtectedHeader.cborBstr (.mk none h) = .ok (.bytes (enc x))) :=
  ⟨rfl, cborBstr_built_empty h, fun he => (cborBstr_built_nonempty h he).trans (Res.map_ok_of hx)⟩

theorem header (h : Header) (hw : Header.WF maxNest h) :
    ∃ x h', Header.toValue h = .ok x ∧ hdrFromValue x = .ok h' ∧ Header.erase h' = Header.erase h := hdr_api_rt h hw
theorem header_any_budget (d : Nat) : HdrRT d ∧ PhRT d ∧ SigRT d := built_rt d
theorem protected_header (p : ProtectedHeader) (hw : ProtectedHeader.WF maxNest p) :
    ∃ b p', ProtectedHeader.cborBstr p = .ok (.bytes b) ∧ phFromBstr (.bytes b) = .ok p' ∧ ProtectedHeader.erase p' = ProtectedHeader.erase p ∧
      p'.originalData = some b := ph_api_rt p hw
theorem signature (s : CoseSignature) (hw : CoseSignature.WF maxNest s) :
    ∃ x s', CoseSignature.toValue s = .ok x ∧ sigFromValue x = .ok s' ∧ CoseSignature.erase s' = CoseSignature.erase s ∧ SigSame s' s := sig_api_rt s hw

/-- COSE_Sign1 = [protected bstr, unprotected map, payload or nil, signature bstr]. -/
theorem sign1 (m : CoseSign1) (hp : ProtectedHeader.WF maxNest m.protected_) (hu : Header.WF maxNest m.unprotected) :
    ∃ b y m', m.toValue = .ok (.array [.bytes b, y, optBytesToValue m.payload, .bytes m.signature]) ∧
      CoseSign1.fromValue (.array [.bytes b, y, optBytesToValue m.payload, .bytes m.signature]) = .ok m' ∧
      ProtectedHeader.erase m'.protected_ = ProtectedHeader.erase m.protected_ ∧ Header.erase m'.unprotected = Header.erase m.unprotected ∧
      m'.payload = m.payload ∧ m'.signature = m.signature ∧ m'.protected_.originalData = some b := by
  obtain ⟨b, y, m', _, h⟩ := sign1_rt m hp hu; exact ⟨b, y, m', h⟩
/-- COSE_Sign = [protected, unprotected, payload or nil, [signatures]]. -/
theorem sign (m : CoseSign) (hp : ProtectedHeader.WF maxNest m.protected_) (hu : Header.WF maxNest m.unprotected) (hs : sigsWF maxNest m.signatures) :
    ∃ b y vs m', m.toValue = .ok (.array [.bytes b, y, optBytesToValue m.payload, .array vs]) ∧
      CoseSign.fromValue (.array [.bytes b, y, optBytesToValue m.payload, .array vs]) = .ok m' ∧
      ProtectedHeader.erase m'.protected_ = ProtectedHeader.erase m.protected_ ∧ Header.erase m'.unprotected = Header.erase m.unprotected ∧
      m'.payload = m.payload ∧ eraseSigs m'.signatures = eraseSigs m.signatures ∧ m'.protected_.originalData = some b ∧
      sigsSame m'.signatures m.signatures := by
  obtain ⟨b, y, vs, m', _, h⟩ := sign_rt m hp hu hs; exact ⟨b, y, vs, m', h⟩
/-- COSE_Mac0 = [protected, unprotected, payload or nil, tag]. -/
theorem mac0 (m : CoseMac0) (hp : ProtectedHeader.WF maxNest m.protected_) (hu : Header.WF maxNest m.unprotected) :
    ∃ b y m', m.toValue = .ok (.array [.bytes b, y, optBytesToValue m.payload, .bytes m.tag]) ∧
      CoseMac0.fromValue (.array [.bytes b, y, optBytesToValue m.payload, .bytes m.tag]) = .ok m' ∧
      ProtectedHeader.erase m'.protected_ = ProtectedHeader.erase m.protected_ ∧ Header.erase m'.unprotected = Header.erase m.unprotected ∧
      m'.payload = m.payload ∧ m'.tag = m.tag ∧ m'.protected_.originalData = some b := by
  obtain ⟨b, y, m', _, h⟩ := mac0_rt m hp hu; exact ⟨b, y, m', h⟩
/-- COSE_Mac = [protected, unprotected, payload or nil, tag, [recipients]]. -/
theorem mac (m : CoseMac) (hp : ProtectedHeader.WF maxNest m.protected_) (hu : Header.WF maxNest m.unprotected) (hr : rcpsWF m.recipients) :
    ∃ b y ys m', m.toValue = .ok (.array [.bytes b, y, optBytesToValue m.payload, .bytes m.tag, .array ys]) ∧
      CoseMac.fromValue (.array [.bytes b, y, optBytesToValue m.payload, .bytes m.tag, .array ys]) = .ok m' ∧
      ProtectedHeader.erase m'.protected_ = ProtectedHeader.erase m.protected_ ∧ Header.erase m'.unprotected = Header.erase m.unprotected ∧
      m'.payload = m.payload ∧ m'.tag = m.tag ∧ eraseRcps m'.recipients = eraseRcps m.recipients ∧ m'.protected_.originalData = some b := by
  obtain ⟨b, y, ys, m', _, h⟩ := mac_rt m hp hu hr; exact ⟨b, y, ys, m', h⟩
/-- COSE_Encrypt0 = [protected, unprotected, ciphertext or nil]. -/
theorem encrypt0 (m : CoseEncrypt0) (hp : ProtectedHeader.WF maxNest m.protected_) (hu : Header.WF maxNest m.unprotected) :
    ∃ b y m', m.toValue = .ok (.array [.bytes b, y, optBytesToValue m.ciphertext]) ∧
      CoseEncrypt0.fromValue (.array [.bytes b, y, optBytesToValue m.ciphertext]) = .ok m' ∧
      ProtectedHeader.erase m'.protected_ = ProtectedHeader.erase m.protected_ ∧ Header.erase m'.unprotected = Header.erase m.unprotected ∧
      m'.ciphertext = m.ciphertext ∧ m'.protected_.originalData = some b := by
  obtain ⟨b, y, m', _, h⟩ := encrypt0_rt m hp hu; exact ⟨b, y, m', h⟩
/-- COSE_Encrypt = [protected, unprotected, ciphertext or nil, [recipients]]. -/
theorem encrypt (m : CoseEncrypt) (hp : ProtectedHeader.WF maxNest m.protected_) (hu : Header.WF maxNest m.unprotected) (hr : rcpsWF m.recipients) :
    ∃ b y ys m', m.toValue = .ok (.array [.bytes b, y, optBytesToValue m.ciphertext, .array ys]) ∧
      CoseEncrypt.fromValue (.array [.bytes b, y, optBytesToValue m.ciphertext, .array ys]) = .ok m' ∧
      ProtectedHeader.erase m'.protected_ = ProtectedHeader.erase m.protected_ ∧ Header.erase m'.unprotected = Header.erase m.unprotected ∧
      m'.ciphertext = m.ciphertext ∧ eraseRcps m'.recipients = eraseRcps m.recipients ∧ m'.protected_.originalData = some b := by
  obtain ⟨b, y, ys, m', _, h⟩ := encrypt_rt m hp hu hr; exact ⟨b, y, ys, m', h⟩

/-- COSE_recipient: three elements when it has no nested recipients, four otherwise — and decoding gives it back, at every nesting. -/
theorem recipient (r : CoseRecipient) (hw : r.WF) : ∃ x r', r.toValue = .ok x ∧ rcpFromValue x = .ok r' ∧ r'.erase = r.erase := rcp_rt r hw
theorem recipient_slot_omitted (p u ct) (hs : List Value) (h : headerSlots p u = .ok hs) :
    CoseRecipient.toValue (.mk p u ct []) = .ok (.array (hs ++ [optBytesToValue ct])) :=
  (CoseRecipient.toValue_nil p u ct).trans (Res.map_ok_of h)

/-- COSE_Key: kty always, kid / alg / key_ops / Base IV when populated (labels 1–5), then the other parameters in order; decodes to the same key. -/
theorem key (k : CoseKey) (hw : k.WF) :
    k.toValue = .ok (.map (pairsToValue (keyL k.kty k.keyId k.alg k.keyOps k.baseIv ++ k.params))) ∧
    CoseKey.fromValue (.map (pairsToValue (keyL k.kty k.keyId k.alg k.keyOps k.baseIv ++ k.params))) = .ok k := key_rt k hw
theorem keyset (ks : List CoseKey) (hw : ∀ k ∈ ks, k.WF) : ∃ vs, CoseKeySet.toValue ks = .ok (.array vs) ∧ CoseKeySet.fromValue (.array vs) = .ok ks :=
  ⟨_, by simp only [CoseKeySet.toValue, mapRes_ok_map _ _ ks fun k hk => (key_rt k (hw k hk)).1],
    (Coset.Props.C10.keyset_iff _ ks).mpr ⟨_, rfl, mapRes_roundtrip _ _ ks fun k hk => (key_rt k (hw k hk)).2⟩⟩
/-- claims set: the populated typed claims under 1–7 in order, then the others; decodes to the same set. -/
theorem claims (c : ClaimsSet) (hw : c.WF) :
    c.toValue = .ok (.map (namePairs (claimL c.issuer c.subject c.audience c.expirationTime c.notBefore c.issuedAt c.cwtId ++ c.rest))) ∧
    ClaimsSet.fromValue (.map (namePairs (claimL c.issuer c.subject c.audience c.expirationTime c.notBefore c.issuedAt c.cwtId ++ c.rest))) = .ok c :=
  claims_rt c hw
theorem party_info (p : PartyInfo) (hw : p.WF) : ∃ x, p.toValue = .ok x ∧ PartyInfo.fromValue x = .ok p := party_rt p hw
theorem supp_pub_info (s : SuppPubInfo) (hw : s.WF) :
    ∃ x s', s.toValue = .ok x ∧ SuppPubInfo.fromValue x = .ok s' ∧ s'.keyDataLength = s.keyDataLength ∧ s'.other = s.other ∧
      ProtectedHeader.erase s'.protected_ = ProtectedHeader.erase s.protected_ := supp_rt s hw
theorem kdf_context (k : CoseKdfContext) (hw : k.WF) :
    ∃ x k', k.toValue = .ok x ∧ CoseKdfContext.fromValue x = .ok k' ∧ k'.algorithmId = k.algorithmId ∧ k'.partyUInfo = k.partyUInfo ∧
      k'.partyVInfo = k.partyVInfo ∧ k'.suppPrivInfo = k.suppPrivInfo ∧ k'.suppPubInfo.keyDataLength = k.suppPubInfo.keyDataLength ∧
      k'.suppPubInfo.other = k.suppPubInfo.other ∧
      ProtectedHeader.erase k'.suppPubInfo.protected_ = ProtectedHeader.erase k.suppPubInfo.protected_ := kdf_rt k hw
theorem label (l : Label) (h : LabelGood l) : Label.toValue l = .ok (labelValue l) ∧ Label.fromValue (labelValue l) = .ok l :=
  ⟨Label.toValue_eq l, Label.roundtrip l h⟩

/-- `to_vec` is the serializer applied to the emitted value; an independent reading of those bytes gives that value back, and then the
    type's decoder gives the original (whatever `conv` yields on the emitted value). -/
theorem bytes {α : Type} (conv : Value → Res α) (toV : α → Res Value) (t : α) (x : Value) (hx : toV t = .ok x)
    (hn : Normal x) (hd : depthOf x ≤ recursionLimit) :
    toVec toV t = .ok (enc x) ∧ readToValue (enc x) = .ok x ∧ fromSlice conv (enc x) = conv x :=
  ⟨toVec_of_ok hx, readToValue_enc x hn hd, fromSlice_enc conv hn hd⟩

theorem tagged_bytes {α : Type} (tag : Nat) (conv : Value → Res α) (toV : α → Res Value) (t : α) (x : Value) (hx : toV t = .ok x)
    (hn : Normal (.tag tag x)) (hd : depthOf (.tag tag x) ≤ recursionLimit) :
    toTaggedVec tag toV t = .ok (enc (.tag tag x)) ∧ readToValue (enc (.tag tag x)) = .ok (.tag tag x) ∧
      fromTaggedSlice tag conv (enc (.tag tag x)) = conv x :=
  ⟨toTaggedVec_of_ok tag hx, readToValue_enc _ hn hd, fromTaggedSlice_enc tag conv hn hd⟩

/-!
  `bytes` / `tagged_bytes` take "the emitted value is one the serializer represents faithfully" as a hypothesis; here it is derived from
  conditions on the fields (`…NF`, Roundtrip/EmitNormal.lean), and `through_serializer` carries the `Value`-level round trip to the bytes. -/

theorem header_emits_normal (h : Header) (k : Nat) (hw : Header.WF maxNest h) (hn : Header.NF k h) :
    ∃ x, Header.toValue h = .ok x ∧ Cbor.Normal x ∧ Cbor.depthOf x ≤ k + 1 :=
  let ⟨x, _, hx, _⟩ := hdr_api_rt h hw; ⟨x, hx, (emit_within k).2 h x hn hx⟩

theorem signature_emits_normal (s : CoseSignature) (j : Nat) (hw : CoseSignature.WF maxNest s) (hn : CoseSignature.NF j s) :
    ∃ x, CoseSignature.toValue s = .ok x ∧ Cbor.Normal x ∧ Cbor.depthOf x ≤ j :=
  let ⟨x, _, hx, _⟩ := sig_api_rt s hw; ⟨x, hx, (emit_within j).1 s x hn hx⟩

/-- COSE_Sign1: `from_slice (to_vec m)` returns `m` (its protected header now carrying the bytes encoding assigned it). -/
theorem sign1_bytes_from_fields (m : CoseSign1) (k : Nat) (hk : k + 2 ≤ Cbor.recursionLimit)
    (hp : ProtectedHeader.WF maxNest m.protected_) (hu : Header.WF maxNest m.unprotected)
    (hpn : ProtectedHeader.NF m.protected_) (hun : Header.NF k m.unprotected)
    (hpl : ∀ b, m.payload = some b → b.length < 2 ^ 64) (hsg : m.signature.length < 2 ^ 64) :
    ∃ bs m', toVec CoseSign1.toValue m = .ok bs ∧ fromSlice CoseSign1.fromValue bs = .ok m' ∧
      ProtectedHeader.erase m'.protected_ = ProtectedHeader.erase m.protected_ ∧ Header.erase m'.unprotected = Header.erase m.unprotected ∧
      m'.payload = m.payload ∧ m'.signature = m.signature := by
  obtain ⟨b, y, m', h1, h2, g1, g2, g3, g4, _⟩ := sign1 m hp hu
  exact through_serializer (sign1_emitted_normal m k hk hpn hun hpl hsg) ⟨_, m', h1, h2, g1, g2, g3, g4⟩

/- The other five message types likewise (COSE_Sign with any number of signers, recipients nested to any depth). -/

theorem mac0_bytes_from_fields (m : CoseMac0) (k : Nat) (hk : k + 2 ≤ Cbor.recursionLimit)
    (hp : ProtectedHeader.WF maxNest m.protected_) (hu : Header.WF maxNest m.unprotected)
    (hpn : ProtectedHeader.NF m.protected_) (hun : Header.NF k m.unprotected)
    (hpl : ∀ b, m.payload = some b → b.length < 2 ^ 64) (htg : m.tag.length < 2 ^ 64) :
    ∃ bs m', toVec CoseMac0.toValue m = .ok bs ∧ fromSlice CoseMac0.fromValue bs = .ok m' ∧
      ProtectedHeader.erase m'.protected_ = ProtectedHeader.erase m.protected_ ∧ Header.erase m'.unprotected = Header.erase m.unprotected ∧
      m'.payload = m.payload ∧ m'.tag = m.tag := by
  obtain ⟨b, y, m', h1, h2, g1, g2, g3, g4, _⟩ := mac0 m hp hu
  exact through_serializer (mac0_emitted_normal m k hk hpn hun hpl htg) ⟨_, m', h1, h2, g1, g2, g3, g4⟩

theorem encrypt0_bytes_from_fields (m : CoseEncrypt0) (k : Nat) (hk : k + 2 ≤ Cbor.recursionLimit)
    (hp : ProtectedHeader.WF maxNest m.protected_) (hu : Header.WF maxNest m.unprotected)
    (hpn : ProtectedHeader.NF m.protected_) (hun : Header.NF k m.unprotected)
    (hct : ∀ b, m.ciphertext = some b → b.length < 2 ^ 64) :
    ∃ bs m', toVec CoseEncrypt0.toValue m = .ok bs ∧ fromSlice CoseEncrypt0.fromValue bs = .ok m' ∧
      ProtectedHeader.erase m'.protected_ = ProtectedHeader.erase m.protected_ ∧ Header.erase m'.unprotected = Header.erase m.unprotected ∧
      m'.ciphertext = m.ciphertext := by
  obtain ⟨b, y, m', h1, h2, g1, g2, g3, _⟩ := encrypt0 m hp hu
  exact through_serializer (encrypt0_emitted_normal m k hk hpn hun hct) ⟨_, m', h1, h2, g1, g2, g3⟩

theorem sign_bytes_from_fields (m : CoseSign) (k j : Nat) (hk : k + 2 ≤ Cbor.recursionLimit) (hj : j + 2 ≤ Cbor.recursionLimit)
    (hp : ProtectedHeader.WF maxNest m.protected_) (hu : Header.WF maxNest m.unprotected) (hs : sigsWF maxNest m.signatures)
    (hpn : ProtectedHeader.NF m.protected_) (hun : Header.NF k m.unprotected) (hsn : sigsNF j m.signatures)
    (hsl : m.signatures.length < 2 ^ 64) (hpl : ∀ b, m.payload = some b → b.length < 2 ^ 64) :
    ∃ bs m', toVec CoseSign.toValue m = .ok bs ∧ fromSlice CoseSign.fromValue bs = .ok m' ∧
      ProtectedHeader.erase m'.protected_ = ProtectedHeader.erase m.protected_ ∧ Header.erase m'.unprotected = Header.erase m.unprotected ∧
      m'.payload = m.payload ∧ eraseSigs m'.signatures = eraseSigs m.signatures := by
  obtain ⟨b, y, vs, m', h1, h2, g1, g2, g3, g4, _⟩ := sign m hp hu hs
  exact through_serializer (sign_emitted_normal m k j hk hj hpn hun hsn hsl hpl) ⟨_, m', h1, h2, g1, g2, g3, g4⟩

theorem encrypt_bytes_from_fields (m : CoseEncrypt) (k j : Nat) (hk : k + 2 ≤ Cbor.recursionLimit) (hj : j + 2 ≤ Cbor.recursionLimit)
    (hp : ProtectedHeader.WF maxNest m.protected_) (hu : Header.WF maxNest m.unprotected) (hr : rcpsWF m.recipients)
    (hpn : ProtectedHeader.NF m.protected_) (hun : Header.NF k m.unprotected) (hrn : rcpsNF j m.recipients)
    (hrl : m.recipients.length < 2 ^ 64) (hct : ∀ b, m.ciphertext = some b → b.length < 2 ^ 64) :
    ∃ bs m', toVec CoseEncrypt.toValue m = .ok bs ∧ fromSlice CoseEncrypt.fromValue bs = .ok m' ∧
      ProtectedHeader.erase m'.protected_ = ProtectedHeader.erase m.protected_ ∧ Header.erase m'.unprotected = Header.erase m.unprotected ∧
      m'.ciphertext = m.ciphertext ∧ eraseRcps m'.recipients = eraseRcps m.recipients := by
  obtain ⟨b, y, ys, m', h1, h2, g1, g2, g3, g4, _⟩ := encrypt m hp hu hr
  exact through_serializer (encrypt_emitted_normal m k j hk hj hpn hun hrn hrl hct) ⟨_, m', h1, h2, g1, g2, g3, g4⟩

theorem mac_bytes_from_fields (m : CoseMac) (k j : Nat) (hk : k + 2 ≤ Cbor.recursionLimit) (hj : j + 2 ≤ Cbor.recursionLimit)
    (hp : ProtectedHeader.WF maxNest m.protected_) (hu : Header.WF maxNest m.unprotected) (hr : rcpsWF m.recipients)
    (hpn : ProtectedHeader.NF m.protected_) (hun : Header.NF k m.unprotected) (hrn : rcpsNF j m.recipients)
    (hrl : m.recipients.length < 2 ^ 64) (hpl : ∀ b, m.payload = some b → b.length < 2 ^ 64) (htg : m.tag.length < 2 ^ 64) :
    ∃ bs m', toVec CoseMac.toValue m = .ok bs ∧ fromSlice CoseMac.fromValue bs = .ok m' ∧
      ProtectedHeader.erase m'.protected_ = ProtectedHeader.erase m.protected_ ∧ Header.erase m'.unprotected = Header.erase m.unprotected ∧
      m'.payload = m.payload ∧ m'.tag = m.tag ∧ eraseRcps m'.recipients = eraseRcps m.recipients := by
  obtain ⟨b, y, ys, m', h1, h2, g1, g2, g3, g4, g5, _⟩ := mac m hp hu hr
  exact through_serializer (mac_emitted_normal m k j hk hj hpn hun hrn hrl hpl htg) ⟨_, m', h1, h2, g1, g2, g3, g4, g5⟩

/-- non-vacuity: a recipient holding one nested recipient meets the field-level conditions with budget 4. -/
example : CoseRecipient.NF 4 (.mk (.mk none Header.default) Header.default (some [1]) [.mk (.mk none Header.default) Header.default none []]) := by
  have t : ∀ k, TypedN k none [] none [] [] [] := fun k => ⟨by simp, by simp, by simp, by simp⟩
  simp [CoseRecipient.NF, rcpsNF, ProtectedHeader.NF, Header.NF, Header.default, Header.isEmpty, RestN, csNF, t]

/-- COSE_Key: `from_slice (to_vec key) = key`. -/
theorem key_bytes_from_fields (key : CoseKey) (k : Nat) (hk : k + 1 ≤ Cbor.recursionLimit) (hw : key.WF) (hn : CoseKey.NF k key) :
    ∃ bs, toVec CoseKey.toValue key = .ok bs ∧ fromSlice CoseKey.fromValue bs = .ok key := by
  obtain ⟨h1, h2⟩ := key_rt key hw
  obtain ⟨hn, hd⟩ := (key_emit_within key k hn _ h1).mono hk
  exact ⟨_, toVec_of_ok h1, (fromSlice_enc _ hn hd).trans h2⟩

theorem claims_bytes_from_fields (c : ClaimsSet) (k : Nat) (hk : k + 1 ≤ Cbor.recursionLimit) (hw : c.WF) (hn : ClaimsSet.NF k c) :
    ∃ bs, toVec ClaimsSet.toValue c = .ok bs ∧ fromSlice ClaimsSet.fromValue bs = .ok c := by
  obtain ⟨h1, h2⟩ := claims_rt c hw
  obtain ⟨hn, hd⟩ := (claims_emit_within c k hw hn _ h1).mono hk
  exact ⟨_, toVec_of_ok h1, (fromSlice_enc _ hn hd).trans h2⟩

theorem kdf_bytes_from_fields (k : CoseKdfContext) (hw : k.WF) (hn : CoseKdfContext.NF k) :
    ∃ bs k', toVec CoseKdfContext.toValue k = .ok bs ∧ fromSlice CoseKdfContext.fromValue bs = .ok k' ∧
      k'.algorithmId = k.algorithmId ∧ k'.partyUInfo = k.partyUInfo ∧ k'.partyVInfo = k.partyVInfo ∧ k'.suppPrivInfo = k.suppPrivInfo ∧
      k'.suppPubInfo.keyDataLength = k.suppPubInfo.keyDataLength ∧ k'.suppPubInfo.other = k.suppPubInfo.other ∧
      ProtectedHeader.erase k'.suppPubInfo.protected_ = ProtectedHeader.erase k.suppPubInfo.protected_ :=
  through_serializer (fun x hx => (kdf_emit_within k hw hn x hx).mono (by decide)) (kdf_rt k hw)

/-- non-vacuity: a header with an algorithm, a key id and an extra parameter is well-formed at the API's nesting budget … -/
example : Header.WF maxNest (.mk (some (.assigned Gen.idx_Algorithm_ES256)) [] none [1, 2] [] [] [] [(.int 100, .int 1)]) := by
  refine ⟨⟨?_, by simp, by simp, by simp⟩, ⟨by simp, ?_, ?_⟩, by simp, by simp [sigsWF]⟩
  · intro a ha; cases ha; simp only [GoodRegPriv]; decide +kernel
  · intro l hl; simp at hl; subst hl; decide
  · intro l hl; simp at hl; subst hl; simp [LabelGood, i64Min, i64Max]

/-- … and satisfies the field-level conditions. -/
example : Header.NF 0 (.mk (some (.assigned Gen.idx_Algorithm_ES256)) [] none [1, 2] [] [] [] [(.int 100, .int 1)]) := by
  refine ⟨⟨?_, by simp, by simp, by simp⟩, ⟨by simp, ?_⟩, by simp [csNF]⟩
  · intro a ha; cases ha; simp only [RegPrivN]; decide +kernel
  · intro p hp; simp at hp; subst hp
    exact ⟨by simp [LabelN, i64Min, i64Max], by simp [Cbor.Normal], by simp [Cbor.depthOf]⟩

/-- a protected header holding only an extra parameter is *not* encoded as the empty string. -/
example : (match ProtectedHeader.cborBstr (.mk none (.mk none [] none [] [] [] [] [(.int 100, .int 1)])) with
    | .ok (.bytes b) => b == [0xa1, 0x18, 0x64, 0x01]
    | _ => false) = true := by decide +kernel

#print axioms header_emits
#print axioms typed_entries
#print axioms typed_labels_once
#print axioms counter_signature_forms
#print axioms isEmpty_iff
#print axioms protected_emits
#print axioms header
#print axioms header_any_budget
#print axioms protected_header
#print axioms signature
#print axioms sign1
#print axioms sign
#print axioms mac0
#print axioms mac
#print axioms encrypt0
#print axioms encrypt
#print axioms recipient
#print axioms recipient_slot_omitted
#print axioms key
#print axioms keyset
#print axioms claims
#print axioms party_info
#print axioms supp_pub_info
#print axioms kdf_context
#print axioms label
#print axioms bytes
#print axioms tagged_bytes
#print axioms header_emits_normal
#print axioms signature_emits_normal
#print axioms sign1_bytes_from_fields
#print axioms key_bytes_from_fields
#print axioms mac0_bytes_from_fields
#print axioms encrypt0_bytes_from_fields
#print axioms sign_bytes_from_fields
#print axioms encrypt_bytes_from_fields
#print axioms mac_bytes_from_fields
#print axioms kdf_bytes_from_fields
#print axioms claims_bytes_from_fields

end Coset.Props.C11
