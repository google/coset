/- C10: ties to the source text.  Built and audited together with Props/C10.lean by check.py, but in a module of its own, so that a
   changed textual fact breaks the obligations of the properties that own it and not those of every module that imports their lemmas. -/
import CosetProofs.Ties.Budget.Key
import CosetProofs.Ties.Compare.Common
import CosetProofs.Ties.Compare.Iana
import CosetProofs.Ties.Compare.Key
import CosetProofs.Ties.IanaTables
namespace Coset.Props.C10

/-- decision budget of `src/key/mod.rs`: no branch, comparison or integer literal beyond the transcribed tree's (a needle no stream reaches still adds one). -/
theorem tie_budget_key : Coset.Ties.budgetCovered "key" Coset.Gen.decisionBudget Coset.Pinned.decisionBudget = true := Coset.Ties.budget_key

#print axioms tie_budget_key

/-! comparisons and integer literals of the modules this property is anchored in (properties.jsonl): none beyond the transcribed tree's -/
theorem tie_compare_common : Coset.Ties.compareCovered "common" Coset.Gen.decisionBudget Coset.Pinned.decisionBudget = true := Coset.Ties.compare_common
theorem tie_compare_iana : Coset.Ties.compareCovered "iana" Coset.Gen.decisionBudget Coset.Pinned.decisionBudget = true := Coset.Ties.compare_iana
theorem tie_compare_key : Coset.Ties.compareCovered "key" Coset.Gen.decisionBudget Coset.Pinned.decisionBudget = true := Coset.Ties.compare_key

#print axioms tie_compare_common
#print axioms tie_compare_iana
#print axioms tie_compare_key

/-- the registry tables the streams of this property build values from (by name) are the IANA assignments. -/
theorem tie_iana_tables : Coset.Ties.IanaTablesOk := Coset.Ties.iana_tables

#print axioms tie_iana_tables

end Coset.Props.C10
