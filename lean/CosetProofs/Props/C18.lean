/-
  C18 — CWT claims sets and KDF contexts decode and encode per their definitions.
  Claims set: accepted ⇔ well-formed (both directions, any wire order), every field = wire value, others kept in order, duplicate ⇒
  DuplicateMapKey.  KDF context, PartyInfo, SuppPubInfo: accepted ⇔ the stated array shape; the emitted value of a decode result is the
  decoded value.  Encoding a well-formed value emits exactly its populated fields and decoding returns it (with C11).
  (`ClaimsFields.lean` holds what the round trip is built on as well: the declarative reading `ClaimsOf`, `timestamp`, the ⇒ half and
  the fold behind ⇐.)
-/
import CosetProofs.ClaimsFields
import CosetProofs.Roundtrip.KdfContext
import CosetProofs.Roundtrip.Claims
import CosetProofs.Cbor.Encodings
namespace Coset.Props.C18
open Coset

/-- C18 (claims, ⇐): a map whose keys are registered / private-use integers or text, pairwise distinct, with each typed claim of its type,
    is accepted — in any wire order. -/
theorem claims_wellformed_is_accepted (m : List (Value × Value)) (ns : List RegLabelPriv)
    (hk : mapRes (RegLabelPriv.fromValue Reg.cwtClaimName) (m.map (·.1)) = .ok ns) (hnd : ns.Nodup)
    (hall : ∀ p ∈ ns.zip (m.map (·.2)), ClaimOk p.1 p.2) : ∃ c, ClaimsSet.fromValue (.map m) = .ok c := by
  obtain ⟨c, hf⟩ := claimsFold_accepts (ns.zip (m.map (·.2))) ClaimsSet.default hall
  exact ⟨c, (claimsLoop_ok_iff m _ c).mpr ⟨ns, hk, hnd, hf⟩⟩

theorem claims_accepted_iff (v : Value) :
    (∃ c, ClaimsSet.fromValue v = .ok c) ↔
      ∃ m ns, v = .map m ∧ mapRes (RegLabelPriv.fromValue Reg.cwtClaimName) (m.map (·.1)) = .ok ns ∧ ns.Nodup ∧
        ∀ p ∈ ns.zip (m.map (·.2)), ClaimOk p.1 p.2 := by
  constructor
  · rintro ⟨c, hok⟩
    obtain ⟨m, ns, rfl, hk, hnd, co⟩ := claims_accepted_is_wellformed v c hok
    have hnd' := zip_nodup_of_mapRes hk hnd
    refine ⟨m, ns, rfl, hk, hnd, ?_⟩
    rintro ⟨n, x⟩ hp
    refine ⟨?_, ?_, ?_⟩
    · rintro (rfl | rfl | rfl)
      · obtain ⟨t, h1, _⟩ := field_of_mem hnd' hp co.issuer; exact ⟨t, h1⟩
      · obtain ⟨t, h1, _⟩ := field_of_mem hnd' hp co.subject; exact ⟨t, h1⟩
      · obtain ⟨t, h1, _⟩ := field_of_mem hnd' hp co.audience; exact ⟨t, h1⟩
    · rintro (rfl | rfl | rfl)
      · obtain ⟨t, h1, _⟩ := field_of_mem hnd' hp co.expirationTime; exact ⟨t, h1⟩
      · obtain ⟨t, h1, _⟩ := field_of_mem hnd' hp co.notBefore; exact ⟨t, h1⟩
      · obtain ⟨t, h1, _⟩ := field_of_mem hnd' hp co.issuedAt; exact ⟨t, h1⟩
    · rintro rfl; obtain ⟨b, h1, _⟩ := field_of_mem hnd' hp co.cwtId; exact ⟨b, h1⟩
  · rintro ⟨m, ns, rfl, hk, hnd, hall⟩
    exact claims_wellformed_is_accepted m ns hk hnd hall

/-- a repeated claim name after an acceptable prefix: `DuplicateMapKey` (decode side of C12 for claims sets). -/
theorem claims_dup_error_kind (p q : List (Value × Value)) (k x : Value) (n : RegLabelPriv) (np : List RegLabelPriv) (cp : ClaimsSet)
    (hnp : mapRes (RegLabelPriv.fromValue Reg.cwtClaimName) (p.map (·.1)) = .ok np) (hnd : np.Nodup)
    (hfold : foldRes claimStep (np.zip (p.map (·.2))) ClaimsSet.default = .ok cp)
    (hk : RegLabelPriv.fromValue Reg.cwtClaimName k = .ok n) (hmem : n ∈ np) :
    ClaimsSet.fromValue (.map (p ++ (k, x) :: q)) = .err .duplicateMapKey := by
  simp only [ClaimsSet.fromValue, claimsLoop_eq_gen]
  exact genLoop_dup_nil _ _ _ _ claims_loop_hyps.1 claims_loop_hyps.2 p q k x n np _ cp hnp hnd hfold hk hmem

/-- a PartyInfo nonce slot. -/
def NonceOk (x : Value) : Prop := x = .null ∨ (∃ b, x = .bytes b) ∨ (∃ n, x = .int n ∧ i64Min ≤ n ∧ n ≤ i64Max)

/-- PartyInfo = [identity bstr/nil, nonce bstr/int/nil, other bstr/nil] (arity exactly 3). -/
theorem party_info (v : Value) (p : PartyInfo) : PartyInfo.fromValue v = .ok p →
    ∃ x0 x1 x2, v = .array [x0, x1, x2] ∧ nullOrBytes x0 = .ok p.identity ∧ nullOrBytes x2 = .ok p.other ∧
      ((x1 = .null ∧ p.nonce = none) ∨ (∃ b, x1 = .bytes b ∧ p.nonce = some (.bytes b)) ∨
       (∃ n, x1 = .int n ∧ i64Min ≤ n ∧ n ≤ i64Max ∧ p.nonce = some (.integer n))) := by
  intro h
  -- what was decoded emits the wire value (`party_ok_iff`), slot by slot
  obtain ⟨hv, hw⟩ := (party_ok_iff v p).mp h
  cases (PartyInfo.toValue_eq p).symm.trans hv
  refine ⟨_, _, _, rfl, (nullOrBytes_ok ..).mpr rfl, (nullOrBytes_ok ..).mpr rfl, ?_⟩
  rcases hn : p.nonce with _ | b | n
  · exact .inl ⟨rfl, rfl⟩
  · exact .inr (.inl ⟨b, rfl, rfl⟩)
  · exact .inr (.inr ⟨n, rfl, (hw n hn).1, (hw n hn).2, rfl⟩)

theorem party_info_iff (v : Value) :
    (∃ p, PartyInfo.fromValue v = .ok p) ↔
      ∃ x0 x1 x2, v = .array [x0, x1, x2] ∧ (∃ o, nullOrBytes x0 = .ok o) ∧ NonceOk x1 ∧ (∃ o, nullOrBytes x2 = .ok o) := by
  constructor
  · rintro ⟨p, hp⟩
    obtain ⟨x0, x1, x2, rfl, h0, h2, h1⟩ := party_info v p hp
    refine ⟨x0, x1, x2, rfl, ⟨_, h0⟩, ?_, ⟨_, h2⟩⟩
    rcases h1 with ⟨e, _⟩ | ⟨b, e, _⟩ | ⟨n, e, a1, a2, _⟩
    · exact Or.inl e
    · exact Or.inr (Or.inl ⟨b, e⟩)
    · exact Or.inr (Or.inr ⟨n, e, a1, a2⟩)
  · rintro ⟨x0, x1, x2, rfl, ⟨o0, h0⟩, h1, ⟨o2, h2⟩⟩
    have ok := fun n hw => (party_ok_iff _ ⟨o0, n, o2⟩).mpr ⟨PartyInfo.toValue_eq _, hw⟩
    cases (nullOrBytes_ok ..).mp h0; cases (nullOrBytes_ok ..).mp h2
    rcases h1 with rfl | ⟨b, rfl⟩ | ⟨n, rfl, a1, a2⟩
    · exact ⟨_, ok none nofun⟩
    · exact ⟨_, ok (some (.bytes b)) nofun⟩
    · exact ⟨_, ok (some (.integer n)) fun _ e => by cases e; exact ⟨a1, a2⟩⟩

theorem supp_pub_info_iff (v : Value) :
    (∃ s, SuppPubInfo.fromValue v = .ok s) ↔
      ∃ n x1, 0 ≤ n ∧ n ≤ u64Max ∧ (∃ p, phFromBstr x1 = .ok p) ∧ (v = .array [.int n, x1] ∨ ∃ o, v = .array [.int n, x1, .bytes o]) := by
  constructor
  · rintro ⟨⟨len, prot, other⟩, hs⟩
    obtain ⟨x1, hv, hp, hr⟩ := (supp_ok_iff v _).mp hs
    refine ⟨len, x1, hr.1, hr.2, ⟨_, hp⟩, ?_⟩
    cases other
    · exact .inl hv
    · exact .inr ⟨_, hv⟩
  · rintro ⟨n, x1, h0, h1, ⟨p, hp⟩, rfl | ⟨o, rfl⟩⟩
    · exact ⟨⟨n, p, none⟩, (supp_ok_iff _ _).mpr ⟨x1, rfl, hp, h0, h1⟩⟩
    · exact ⟨⟨n, p, some o⟩, (supp_ok_iff _ _).mpr ⟨x1, rfl, hp, h0, h1⟩⟩

/-- the KDF context needs at least its four leading elements, and never panics on the subtraction `len - 4`. -/
theorem kdf_arity (a : List Value) (h : a.length < 4) : CoseKdfContext.fromValue (.array a) = .err .unexpectedItem := by
  rw [kdf_eq]; split
  · next _ _ _ _ _ e => cases e; exact absurd h (by simp)
  · rfl

/-- COSE_KDF_Context = [AlgorithmID, PartyUInfo, PartyVInfo, SuppPubInfo, *bstr]: accepted exactly in this shape. -/
theorem kdf_context_iff (v : Value) :
    (∃ k, CoseKdfContext.fromValue v = .ok k) ↔
      ∃ (x0 x1 x2 x3 : Value) (bs : List Bytes), v = .array ([x0, x1, x2, x3] ++ bs.map Value.bytes) ∧
        (∃ a, RegLabelPriv.fromValue Reg.algorithm x0 = .ok a) ∧ (∃ p, PartyInfo.fromValue x1 = .ok p) ∧ (∃ p, PartyInfo.fromValue x2 = .ok p) ∧
        (∃ s, SuppPubInfo.fromValue x3 = .ok s) := by
  constructor
  · rintro ⟨k, hk⟩
    obtain ⟨x0, x1, x2, x3, hv, h0, h1, h2, h3⟩ := (kdf_ok_iff v k).mp hk
    exact ⟨x0, x1, x2, x3, _, hv, ⟨_, h0⟩, ⟨_, h1⟩, ⟨_, h2⟩, ⟨_, h3⟩⟩
  · rintro ⟨x0, x1, x2, x3, bs, rfl, ⟨a, ha⟩, ⟨p1, h1⟩, ⟨p2, h2⟩, ⟨s, hs⟩⟩
    exact ⟨⟨a, p1, p2, s, bs⟩, (kdf_ok_iff _ _).mpr ⟨x0, x1, x2, x3, rfl, ha, h1, h2, hs⟩⟩

theorem claims_encode_decode (c : ClaimsSet) (hw : c.WF) :
    c.toValue = .ok (.map (namePairs (claimL c.issuer c.subject c.audience c.expirationTime c.notBefore c.issuedAt c.cwtId ++ c.rest))) ∧
    ClaimsSet.fromValue (.map (namePairs (claimL c.issuer c.subject c.audience c.expirationTime c.notBefore c.issuedAt c.cwtId ++ c.rest))) = .ok c :=
  claims_rt c hw

/-- the typed claims are emitted once each, only when populated, under labels 1–7 in order. -/
theorem claims_typed_entries (iss sub aud : Option Bytes) (exp nbf iat : Option Timestamp) (cti : Option Bytes) :
    List.Sublist ((claimL iss sub aud exp nbf iat cti).map (·.1)) typedClaims := claimL_names iss sub aud exp nbf iat cti

theorem kdf_encode_decode (k : CoseKdfContext) (hw : k.WF) :
    ∃ x k', k.toValue = .ok x ∧ CoseKdfContext.fromValue x = .ok k' ∧ k'.algorithmId = k.algorithmId ∧ k'.partyUInfo = k.partyUInfo ∧
      k'.partyVInfo = k.partyVInfo ∧ k'.suppPrivInfo = k.suppPrivInfo ∧ k'.suppPubInfo.keyDataLength = k.suppPubInfo.keyDataLength ∧
      k'.suppPubInfo.other = k.suppPubInfo.other ∧
      ProtectedHeader.erase k'.suppPubInfo.protected_ = ProtectedHeader.erase k.suppPubInfo.protected_ := kdf_rt k hw

theorem decode_emits_input (v : Value) (k : CoseKdfContext) (h : CoseKdfContext.fromValue v = .ok k) : k.toValue = .ok v := kdf_emit v k h

/-- non-vacuity: a claims set with an issuer, an expiry time and one private-use claim is accepted; a KDF context of its four mandatory
    elements is accepted, one of three elements refused. -/
example : (fromSlice ClaimsSet.fromValue [0xa3, 0x01, 0x61, 0x69, 0x04, 0x1a, 0x65, 0x53, 0xf1, 0x00, 0x3a, 0x00, 0x01, 0x00, 0x00, 0xf6]).isOk = true := by decide +kernel
example : (fromSlice CoseKdfContext.fromValue [0x84, 0x26, 0x83, 0xf6, 0xf6, 0xf6, 0x83, 0xf6, 0xf6, 0xf6, 0x82, 0x18, 0x80, 0x40]).isOk = true := by decide +kernel
example : (fromSlice CoseKdfContext.fromValue [0x83, 0x26, 0x83, 0xf6, 0xf6, 0xf6, 0x83, 0xf6, 0xf6, 0xf6]).errKind? = some .unexpectedItem := by decide +kernel

/-- claims sets and the KDF-context family on the bytes of *any* well-formed encoding of an item: the byte-level decoder gives what the
    Value-level conversion gives on the item, so the iff theorems above hold for every encoding. -/
theorem bytes_any_encoding (v : Value) (b : Bytes) (h : Spec.Encodes v b) (hd : Cbor.depthOf v ≤ Cbor.recursionLimit) :
    fromSlice ClaimsSet.fromValue b = ClaimsSet.fromValue v ∧ fromSlice CoseKdfContext.fromValue b = CoseKdfContext.fromValue v ∧
    fromSlice PartyInfo.fromValue b = PartyInfo.fromValue v ∧ fromSlice SuppPubInfo.fromValue b = SuppPubInfo.fromValue v :=
  ⟨fromSlice_of_encodes _ v b h hd, fromSlice_of_encodes _ v b h hd, fromSlice_of_encodes _ v b h hd, fromSlice_of_encodes _ v b h hd⟩

#print axioms bytes_any_encoding
#print axioms fold_claimsOf
#print axioms claims_accepted_is_wellformed
#print axioms claims_wellformed_is_accepted
#print axioms claims_accepted_iff
#print axioms claims_dup_error_kind
#print axioms timestamp
#print axioms party_info
#print axioms party_info_iff
#print axioms supp_pub_info_iff
#print axioms kdf_context_iff
#print axioms kdf_arity
#print axioms claims_encode_decode
#print axioms claims_typed_entries
#print axioms kdf_encode_decode
#print axioms decode_emits_input

end Coset.Props.C18
