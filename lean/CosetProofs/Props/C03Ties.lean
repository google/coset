/- C03: ties to the source text.  Built and audited together with Props/C03.lean by check.py, but in a module of its own, so that a
   changed textual fact breaks the obligations of the properties that own it and not those of every module that imports their lemmas. -/
import CosetProofs.Ties.ContextRouting
import CosetProofs.Ties.HeaderFields
import CosetProofs.Ties.Budget.Sign
import CosetProofs.Ties.Compare.Header
import CosetProofs.Ties.Compare.Sign
import CosetProofs.Ties.IanaTables
namespace Coset.Props.C03

/-- which context constant each helper passes to which structure function. -/
theorem tie_context_routing : Coset.Gen.contextRouting = Coset.Pinned.contextRouting := Coset.Ties.context_routing
/-- `Header::is_empty` tests every field of `struct Header`. -/
theorem tie_header_is_empty : Coset.Gen.headerFields = Coset.Pinned.headerFields ∧ Coset.Gen.headerIsEmptyTests = Coset.Pinned.headerIsEmptyTests := ⟨Coset.Ties.header_fields, Coset.Ties.header_is_empty_tests⟩

#print axioms tie_context_routing
#print axioms tie_header_is_empty

/-- decision budget of `src/sign/mod.rs`: no branch, comparison or integer literal beyond the transcribed tree's (a needle no stream reaches still adds one). -/
theorem tie_budget_sign : Coset.Ties.budgetCovered "sign" Coset.Gen.decisionBudget Coset.Pinned.decisionBudget = true := Coset.Ties.budget_sign

#print axioms tie_budget_sign

/-! comparisons and integer literals of the modules this property is anchored in (properties.jsonl): none beyond the transcribed tree's -/
theorem tie_compare_header : Coset.Ties.compareCovered "header" Coset.Gen.decisionBudget Coset.Pinned.decisionBudget = true := Coset.Ties.compare_header
theorem tie_compare_sign : Coset.Ties.compareCovered "sign" Coset.Gen.decisionBudget Coset.Pinned.decisionBudget = true := Coset.Ties.compare_sign

#print axioms tie_compare_header
#print axioms tie_compare_sign

/-- the registry tables the streams of this property build values from (by name) are the IANA assignments. -/
theorem tie_iana_tables : Coset.Ties.IanaTablesOk := Coset.Ties.iana_tables

#print axioms tie_iana_tables

end Coset.Props.C03
