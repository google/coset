/-
  C12 — no map handled by the crate ever carries the same label twice.
  Decode side: an accepted header or key map has keys that denote pairwise distinct labels, under every encoding of the map; a
  repeated label after an acceptable prefix gives `DuplicateMapKey` (for claims sets: `C18.claims_dup_error_kind`).  Encode side: the
  `seen` loop that ends `Header::to_cbor_value` / `CoseKey::to_cbor_value` makes every emitted map have pairwise distinct keys, for
  every in-memory value; `ClaimsSet` encoding does not check.
-/
import CosetProofs.HeaderLoop
import CosetProofs.Shapes
import CosetProofs.Roundtrip.HeaderEmit
import CosetProofs.Cbor.Encodings
import CosetProofs.Roundtrip.Key
namespace Coset.Props.C12
open Coset

/-- the labels denoted by the keys of a wire map (`18 01` and `01`, or differently chunked texts, denote one label:
    this is a function of the parsed *value*, not of the bytes). -/
def labelsOf (m : List (Value × Value)) : Res (List Label) := keyLabels m

/-- decode, header maps: an accepted map has keys that all denote labels, pairwise distinct. -/
theorem header_accepts_only_distinct (fuel d : Nat) (m : List (Value × Value)) (h : Header)
    (hok : Header.fromValue fuel d (.map m) = .ok h) : ∃ ls, labelsOf m = .ok ls ∧ ls.Nodup := by
  cases fuel with
  | zero => simp [Header.fromValue] at hok
  | succ f =>
    obtain ⟨_, e, hloop⟩ := (header_ok_iff ..).mp hok
    cases e
    obtain ⟨ls, hl, hnd, _⟩ := (headerLoop_ok_iff _ _ m _ _).mp hloop
    exact ⟨ls, hl, hnd⟩

/-- contrapositive form: a header map in which two keys denote the same label is never accepted. -/
theorem header_dup_rejected (fuel d : Nat) (m : List (Value × Value)) (ls : List Label) (hl : labelsOf m = .ok ls) (hdup : ¬ ls.Nodup) :
    ∀ h, Header.fromValue fuel d (.map m) ≠ .ok h := by
  intro h hok
  obtain ⟨ls', hl', hnd⟩ := header_accepts_only_distinct fuel d m h hok
  cases hl.symm.trans hl'
  exact hdup hnd

/-- … at every nesting position: the conversions of signatures, recipients, messages and protected byte strings all go through
    `Header.fromValue`, so the statement above covers them (shown here for the protected bstr). -/
theorem protected_dup_rejected (fuel d : Nat) (data : Bytes) (m : List (Value × Value)) (ls : List Label)
    (hne : data ≠ []) (hparse : readToValue data = .ok (.map m)) (hl : labelsOf m = .ok ls) (hdup : ¬ ls.Nodup) :
    ∀ p, ProtectedHeader.fromBstr fuel d (.bytes data) ≠ .ok p := by
  intro p hok
  cases fuel with
  | zero => simp [ProtectedHeader.fromBstr] at hok
  | succ f =>
    obtain ⟨_, e, ⟨rfl, _⟩ | ⟨_, v, h, hv, hh, _⟩⟩ := (protected_ok_iff f d _ p).mp hok <;> cases e
    · exact hne rfl
    · cases hparse.symm.trans hv; exact header_dup_rejected f d m ls hl hdup h hh

/-- error kind: when everything before the second occurrence is acceptable and the repeated key denotes a label,
    the result is `DuplicateMapKey`, whatever the value under the repeated key. -/
theorem header_dup_error_kind (d : Nat) (sf : Value → Res CoseSignature) (p q : List (Value × Value)) (k x : Value) (l : Label)
    (lp : List Label) (hp : Header) (hlp : labelsOf p = .ok lp) (hnd : lp.Nodup)
    (hfold : foldRes (headerStep d sf) (lp.zip (p.map (·.2))) Header.default = .ok hp)
    (hk : Label.fromValue k = .ok l) (hmem : l ∈ lp) :
    headerLoop d sf (p ++ (k, x) :: q) Header.default [] = .err .duplicateMapKey := by
  rw [headerLoop_eq_gen]
  exact genLoop_dup_nil _ _ _ _ label_loop_hyps.1 label_loop_hyps.2 p q k x l lp _ hp hlp hnd hfold hk hmem

/-- the literal reading "always the duplicate-key error, even if an earlier pair is itself malformed" is not what sequential
    validation gives: `{1: h'', 1: 0}` fails on the first pair (alg must be int/tstr) before the duplicate is met. -/
example : (hdrFromValue (.map [(.int 1, .bytes []), (.int 1, .int 0)])).errKind? = some .unexpectedItem := by decide +kernel

theorem key_accepts_only_distinct (m : List (Value × Value)) (k : CoseKey) (hok : CoseKey.fromValue (.map m) = .ok k) :
    ∃ ls, labelsOf m = .ok ls ∧ ls.Nodup := by
  obtain ⟨_, e, hl, _⟩ := (key_ok_iff _ k).mp hok
  cases e
  obtain ⟨ls, hls, hnd, _⟩ := (keyLoop_ok_iff m _ k).mp hl
  exact ⟨ls, hls, hnd⟩

theorem key_dup_error_kind (p q : List (Value × Value)) (k x : Value) (l : Label) (lp : List Label) (kp : CoseKey)
    (hlp : labelsOf p = .ok lp) (hnd : lp.Nodup) (hfold : foldRes keyStep (lp.zip (p.map (·.2))) CoseKey.default = .ok kp)
    (hk : Label.fromValue k = .ok l) (hmem : l ∈ lp) :
    CoseKey.fromValue (.map (p ++ (k, x) :: q)) = .err .duplicateMapKey := by
  have hloop : keyLoop (p ++ (k, x) :: q) CoseKey.default [] = .err .duplicateMapKey := by
    rw [keyLoop_eq_gen]
    exact genLoop_dup_nil _ _ _ _ label_loop_hyps.1 label_loop_hyps.2 p q k x l lp _ kp hlp hnd hfold hk hmem
  simp only [key_eq, hloop, Res.bind_err]

/-- the `seen` loop of `Header::to_cbor_value` / `CoseKey::to_cbor_value`: it fails on a repeated extra label and on an
    extra label already emitted for a populated typed field; when it succeeds the appended keys are distinct from all earlier ones. -/
theorem restToPairs_ok (rest : List (Label × Value)) : ∀ (seen : List Label) (acc m : List (Value × Value)),
    restToPairs rest seen acc = .ok m →
      (rest.map (·.1)).Nodup ∧ (∀ l ∈ rest.map (·.1), l ∉ seen) ∧
      m = acc ++ rest.map (fun p => ((match p.1 with | .int i => Value.int i | .text t => Value.text t), p.2)) := by
  intro seen acc m h
  rw [restToPairs_eq] at h
  split at h
  · next hc => cases h; exact ⟨hc.1, hc.2, rfl⟩
  · cases h

/-- two equal extra labels, or an extra label equal to an already emitted typed label: encoding fails with `DuplicateMapKey`. -/
theorem restToPairs_dup (rest : List (Label × Value)) (seen : List Label) (acc : List (Value × Value))
    (h : ¬ ((rest.map (·.1)).Nodup ∧ ∀ l ∈ rest.map (·.1), l ∉ seen)) : restToPairs rest seen acc = .err .duplicateMapKey := by
  rw [restToPairs_eq, if_neg h]

/-- ClaimsSet: encoding does NOT check (the crate's own test `test_cwt_dup_claim` expects this) — known finding D2-claims. -/
theorem claims_encode_dup_refuted :
    toVec ClaimsSet.toValue ⟨none, none, none, none, none, none, none, [(.assigned Gen.idx_CwtClaimName_Cnf, .null), (.assigned Gen.idx_CwtClaimName_Cnf, .int 1)]⟩
      = .ok [0xa2, 0x08, 0xf6, 0x08, 0x01] := by decide +kernel

/-- non-vacuity: `{4: h'01', 4: h'02'}` (dup) and `{1: -7, 0x1801: 0}` — same label in two encodings, equal after parsing. -/
example : (hdrFromValue (.map [(.int 4, .bytes [1]), (.int 4, .bytes [2])])).errKind? = some .duplicateMapKey := by decide +kernel
example : (fromSlice hdrFromValue [0xa2, 0x01, 0x26, 0x18, 0x01, 0x00]).errKind? = some .duplicateMapKey := by decide +kernel

/-- "however each key is encoded": whatever well-formed encoding of a map with two keys denoting the same label arrives (the two
    keys possibly written in different widths, the map definite or indefinite), `Header::from_slice` does not accept it. -/
theorem header_dup_rejected_any_encoding (m : List (Value × Value)) (ls : List Label) (b : Bytes) (hb : Spec.Encodes (.map m) b)
    (hd : Cbor.depthOf (.map m) ≤ Cbor.recursionLimit) (hl : labelsOf m = .ok ls) (hdup : ¬ ls.Nodup) :
    ∀ h, fromSlice hdrFromValue b ≠ .ok h := by
  intro h hok
  rw [fromSlice_of_encodes _ _ b hb hd] at hok
  exact header_dup_rejected _ _ m ls hl hdup h hok

theorem key_dup_rejected_any_encoding (m : List (Value × Value)) (b : Bytes) (hb : Spec.Encodes (.map m) b)
    (hd : Cbor.depthOf (.map m) ≤ Cbor.recursionLimit) (k : CoseKey) (hok : fromSlice CoseKey.fromValue b = .ok k) :
    ∃ ls, labelsOf m = .ok ls ∧ ls.Nodup := by
  rw [fromSlice_of_encodes _ _ b hb hd] at hok
  exact key_accepts_only_distinct m k hok

/-- the same label written as `01` and as `18 01` in one map is refused. -/
example : (fromSlice hdrFromValue [0xa2, 0x01, 0x26, 0x18, 0x01, 0x26]).errKind? = some .duplicateMapKey := by decide +kernel

/- `m4` (the name of the `let` in `CoseKey.toValue`) is the list of typed entries already emitted, of a key or of a header. -/
open Coset.Spec

theorem mem_typedSeen (m4 : List (Value × Value)) (n : Int) (h : Value.int n ∈ m4.map (·.1)) : Label.int n ∈ typedSeen m4 := by
  obtain ⟨p, hp, he⟩ := List.mem_map.mp h
  simp only [typedSeen, List.mem_filterMap]
  exact ⟨p, hp, by rw [he]⟩

/-- the emission loop after the typed entries: if the typed entries have distinct integer keys, so has the whole emitted map. -/
theorem emit_nodup (m4 : List (Value × Value)) (rest : List (Label × Value)) (m : List (Value × Value))
    (hnd : (m4.map (·.1)).Nodup) (hint : ∀ k ∈ m4.map (·.1), ∃ n, k = Value.int n)
    (h : restToPairs rest (typedSeen m4) m4 = .ok m) : (m.map (·.1)).Nodup := by
  obtain ⟨h1, h2, rfl⟩ := restToPairs_ok rest _ _ _ h
  have e := pairsToValue_keys rest
  rw [List.map_append, List.nodup_append]
  refine ⟨hnd, e ▸ h1.map labelValue fun a b hab he => hab (labelValue_inj he), fun a ha b hb hab => ?_⟩
  -- a key of `m4` is an integer; were it also the key written for some `l` of `rest`, then `l` would be that integer label, which is in `seen`
  obtain ⟨n, rfl⟩ := hint a ha
  obtain ⟨l, hl, he⟩ := List.mem_map.mp (e ▸ hb : b ∈ (rest.map (·.1)).map labelValue)
  cases labelValue_inj (he.trans hab.symm : labelValue l = labelValue (.int n))
  exact h2 _ hl (mem_typedSeen m4 n ha)

/-- the keys that the standard header labels are written as (`stdLabels.map labelValue`). -/
def hdrKeys7 : List Value := [.int 1, .int 2, .int 3, .int 4, .int 5, .int 6, .int 7]

theorem hdrKeys7_nodup : hdrKeys7.Nodup := by simp [hdrKeys7]
theorem hdrKeys7_int : ∀ k ∈ hdrKeys7, ∃ n, k = Value.int n := by
  intro k hk; simp only [hdrKeys7, List.mem_cons, List.not_mem_nil, or_false] at hk
  rcases hk with rfl | rfl | rfl | rfl | rfl | rfl | rfl <;> exact ⟨_, rfl⟩

theorem pairs_keys_sublist (E : List (Label × Value)) (h : (E.map (·.1)).Sublist stdLabels) :
    ((pairsToValue E).map (·.1)).Sublist hdrKeys7 := by
  rw [pairsToValue_keys]; exact h.map labelValue

theorem typed_keys_sublist (alg crit ct kid iv piv) :
    List.Sublist ((headerTypedPairs alg crit ct kid iv piv).map (·.1)) [Value.int 1, .int 2, .int 3, .int 4, .int 5, .int 6] := by
  rw [headerTypedPairs_eq]
  rw [pairsToValue_keys]; exact (typedL_labels alg crit ct kid iv piv).map labelValue

theorem finish_nodup (m4 : List (Value × Value)) (rest : List (Label × Value)) (m : List (Value × Value))
    (hs : List.Sublist (m4.map (·.1)) hdrKeys7) (h : headerFinish m4 rest = .ok (.map m)) : (m.map (·.1)).Nodup := by
  set_option smartUnfolding false in obtain ⟨m', hr, hm⟩ := Res.bind_eq_ok.mp h -- `headerFinish`'s `match` read as `>>=` (Res.lean)
  cases hm
  exact emit_nodup m4 rest m (hdrKeys7_nodup.sublist hs) (fun k hk => hdrKeys7_int k (hs.subset hk)) hr

/-- **C12, encode side, keys**: for every in-memory `CoseKey`, if `to_cbor_value` succeeds with a map, its keys are pairwise distinct. -/
theorem key_encode_distinct (k : CoseKey) (m : List (Value × Value)) (h : CoseKey.toValue k = .ok (.map m)) :
    (m.map (·.1)).Nodup := by
  obtain ⟨kty, kid, alg, ops, biv, ps⟩ := k
  rw [CoseKey.toValue_eq_finish] at h
  exact finish_nodup _ ps m (pairs_keys_sublist _ ((keyL_labels ..).trans (by decide))) h

/-- **C12, encode side, headers**: for every in-memory `Header` (any counter signatures, any extras), if `to_cbor_value` returns a
    map, its keys are pairwise distinct. -/
theorem header_encode_distinct (hd : Header) (m : List (Value × Value)) (h : Header.toValue hd = .ok (.map m)) :
    (m.map (·.1)).Nodup := by
  obtain ⟨alg, crit, ct, kid, iv, piv, cs, rest⟩ := hd
  rw [Header.toValue_eq_finish] at h
  obtain ⟨ov, _, h⟩ := Res.bind_eq_ok.mp h
  exact finish_nodup _ rest m (pairs_keys_sublist _ (typedL_csL_labels ..)) h

#print axioms header_accepts_only_distinct
#print axioms header_dup_rejected
#print axioms protected_dup_rejected
#print axioms header_dup_error_kind
#print axioms key_accepts_only_distinct
#print axioms key_dup_error_kind
#print axioms restToPairs_ok
#print axioms restToPairs_dup
#print axioms claims_encode_dup_refuted
#print axioms header_dup_rejected_any_encoding
#print axioms key_dup_rejected_any_encoding
#print axioms emit_nodup
#print axioms key_encode_distinct
#print axioms header_encode_distinct

end Coset.Props.C12
