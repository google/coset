/-
  C17 — registry names and integers correspond one-to-one with the IANA assignments.
  The tables `Coset.Gen.*` are regenerated from /repo/src/iana/mod.rs on every run; every statement below is
  re-proved against them.
-/
import CosetModel.Label
import CosetRef.Iana
namespace Coset.Props.C17
open Coset

/-! ### the source's tables equal the pinned reference (name by name, value by value) -/
theorem matches_reference_HeaderParameter : Gen.HeaderParameter = Ref.HeaderParameter := rfl
theorem matches_reference_HeaderAlgorithmParameter : Gen.HeaderAlgorithmParameter = Ref.HeaderAlgorithmParameter := rfl
theorem matches_reference_Algorithm : Gen.Algorithm = Ref.Algorithm := rfl
theorem matches_reference_KeyParameter : Gen.KeyParameter = Ref.KeyParameter := rfl
theorem matches_reference_KeyType : Gen.KeyType = Ref.KeyType := rfl
theorem matches_reference_Ec2KeyParameter : Gen.Ec2KeyParameter = Ref.Ec2KeyParameter := rfl
theorem matches_reference_OkpKeyParameter : Gen.OkpKeyParameter = Ref.OkpKeyParameter := rfl
theorem matches_reference_RsaKeyParameter : Gen.RsaKeyParameter = Ref.RsaKeyParameter := rfl
theorem matches_reference_SymmetricKeyParameter : Gen.SymmetricKeyParameter = Ref.SymmetricKeyParameter := rfl
theorem matches_reference_HssLmsKeyParameter : Gen.HssLmsKeyParameter = Ref.HssLmsKeyParameter := rfl
theorem matches_reference_WalnutDsaKeyParameter : Gen.WalnutDsaKeyParameter = Ref.WalnutDsaKeyParameter := rfl
theorem matches_reference_EllipticCurve : Gen.EllipticCurve = Ref.EllipticCurve := rfl
theorem matches_reference_KeyOperation : Gen.KeyOperation = Ref.KeyOperation := rfl
theorem matches_reference_CborTag : Gen.CborTag = Ref.CborTag := rfl
theorem matches_reference_CoapContentFormat : Gen.CoapContentFormat = Ref.CoapContentFormat := rfl
theorem matches_reference_CwtClaimName : Gen.CwtClaimName = Ref.CwtClaimName := rfl

/-- the sixteen registries, and only they. -/
theorem registries_complete : Gen.registries.map (·.1) =
    ["HeaderParameter", "HeaderAlgorithmParameter", "Algorithm", "KeyParameter", "OkpKeyParameter", "Ec2KeyParameter",
     "RsaKeyParameter", "SymmetricKeyParameter", "HssLmsKeyParameter", "WalnutDsaKeyParameter", "KeyType", "EllipticCurve",
     "KeyOperation", "CborTag", "CoapContentFormat", "CwtClaimName"] := rfl

/-! ### no two names share an integer; no name occurs twice -/
def valuesNodup (R : Registry) : Bool := decide ((R.rows.map (·.2)).Nodup)
def namesNodup (R : Registry) : Bool := decide ((R.rows.map (·.1)).Nodup)
theorem values_nodup : Reg.all.all valuesNodup = true := by decide +kernel
theorem names_nodup : Reg.all.all namesNodup = true := by decide +kernel

/-- `from_i64 i = Some x → x.to_i64() = i` -/
theorem to_from (R : Registry) (i : Int) (k : Nat) (h : R.fromI64 i = some k) : R.toI64 k = i := by
  obtain ⟨hk, hp, -⟩ := List.findIdx?_eq_some_iff_getElem.mp h
  simpa [Registry.toI64, List.getElem?_eq_getElem hk] using hp

theorem fromI64_lt (R : Registry) (i : Int) (k : Nat) (h : R.fromI64 i = some k) : k < R.rows.length :=
  (List.findIdx?_eq_some_iff_getElem.mp h).1

/-- `from_i64 (x.to_i64()) = Some x`, for every variant `x` of a registry whose values are pairwise distinct. -/
theorem from_to (R : Registry) (hnd : (R.rows.map (·.2)).Nodup) (k : Nat) (hk : k < R.rows.length) :
    R.fromI64 (R.toI64 k) = some k := by
  simp only [Registry.fromI64, Registry.toI64, List.getElem?_eq_getElem hk, Option.map_some, Option.getD_some]
  refine List.findIdx?_eq_some_iff_getElem.mpr ⟨hk, beq_self_eq_true _, fun j hj heq => ?_⟩
  -- an earlier row with the same value would be a second occurrence of it
  have hjk : j < R.rows.length := Nat.lt_trans hj hk
  have : (R.rows.map (·.2))[j]'(by simpa using hjk) = (R.rows.map (·.2))[k]'(by simpa using hk) := by simpa using heq
  exact Nat.ne_of_lt hj ((List.getElem_inj hnd).mp this)

theorem all_values_nodup (R : Registry) (hR : R ∈ Reg.all) : (R.rows.map (·.2)).Nodup := by
  have h := values_nodup
  rw [List.all_eq_true] at h
  simpa [valuesNodup] using h R hR

/-- C17 (inverse), every registry, every variant, every integer. -/
theorem inverse (R : Registry) (hR : R ∈ Reg.all) :
    (∀ k, k < R.rows.length → R.fromI64 (R.toI64 k) = some k) ∧ (∀ i k, R.fromI64 i = some k → R.toI64 k = i) :=
  ⟨fun k hk => from_to R (all_values_nodup R hR) k hk, fun i k h => to_from R i k h⟩

/-- integer-to-name is injective. -/
theorem fromI64_injective (R : Registry) (i j : Int) (k : Nat) (hi : R.fromI64 i = some k) (hj : R.fromI64 j = some k) : i = j := by
  rw [← to_from R i k hi, ← to_from R j k hj]

/-! ### private use: exactly the integers below -65536, in exactly the four registries; no registered value is private -/
theorem private_registries :
    (Reg.all.filter (·.isPrivate.isSome)).map (·.name) = Ref.privateRegistries := rfl

theorem is_private_iff (i : Int) :
    (Reg.headerParameter.private? i = true ↔ i < -65536) ∧ (Reg.algorithm.private? i = true ↔ i < -65536) ∧
    (Reg.ellipticCurve.private? i = true ↔ i < -65536) ∧ (Reg.cwtClaimName.private? i = true ↔ i < -65536) := by
  simp [Registry.private?, Reg.headerParameter, Reg.algorithm, Reg.ellipticCurve, Reg.cwtClaimName,
    Gen.HeaderParameter_isPrivate, Gen.Algorithm_isPrivate, Gen.EllipticCurve_isPrivate, Gen.CwtClaimName_isPrivate]

def noRegisteredPrivate (R : Registry) : Bool := R.rows.all fun p => !(R.private? p.2)
theorem no_registered_value_is_private : Reg.all.all noRegisteredPrivate = true := by decide +kernel

/-! ### what the decoders of registry labels make of an integer: by range first, then registry, then (where there is one) private use -/
theorem classify_registered (R : Registry) (i : Int) (hi : i64Min ≤ i ∧ i ≤ i64Max) :
    (∀ k, R.fromI64 i = some k → RegLabel.fromValue R (.int i) = .ok (.assigned k)) ∧
    (R.fromI64 i = none → RegLabel.fromValue R (.int i) = .err .unregisteredIana) := by
  constructor
  · intro k hk; simp [RegLabel.fromValue, narrowI64, hi, hk]
  · intro hk; simp [RegLabel.fromValue, narrowI64, hi, hk]

theorem classify_with_private (R : Registry) (i : Int) (hi : i64Min ≤ i ∧ i ≤ i64Max) :
    (∀ k, R.fromI64 i = some k → RegLabelPriv.fromValue R (.int i) = .ok (.assigned k)) ∧
    (R.fromI64 i = none → R.private? i = true → RegLabelPriv.fromValue R (.int i) = .ok (.privateUse i)) ∧
    (R.fromI64 i = none → R.private? i = false → RegLabelPriv.fromValue R (.int i) = .err .unregisteredIanaNonPrivate) := by
  refine ⟨?_, ?_, ?_⟩
  · intro k hk; simp [RegLabelPriv.fromValue, narrowI64, hi, hk]
  · intro hk hp; simp [RegLabelPriv.fromValue, narrowI64, hi, hk, hp]
  · intro hk hp; simp [RegLabelPriv.fromValue, narrowI64, hi, hk, hp]

/-- out of i64 range: rejected as out of range before any registry lookup (see also C15). -/
theorem classify_out_of_range (R : Registry) (i : Int) (hi : ¬ (i64Min ≤ i ∧ i ≤ i64Max)) :
    RegLabel.fromValue R (.int i) = .err .outOfRange ∧ RegLabelPriv.fromValue R (.int i) = .err .outOfRange := by
  simp [RegLabel.fromValue, RegLabelPriv.fromValue, narrowI64, hi]

theorem classify_text (R : Registry) (t : Bytes) :
    RegLabel.fromValue R (.text t) = .ok (.text t) ∧ RegLabelPriv.fromValue R (.text t) = .ok (.text t) := ⟨rfl, rfl⟩

/-- a decoded `Assigned` label re-encodes to the integer it was decoded from. -/
theorem classify_roundtrip (R : Registry) (i : Int) (k : Nat) (h : RegLabel.fromValue R (.int i) = .ok (.assigned k)) :
    RegLabel.toValue R (.assigned k) = .ok (.int i) := by
  by_cases hi : i64Min ≤ i ∧ i ≤ i64Max
  · cases hf : R.fromI64 i with
    | none => cases ((classify_registered R i hi).2 hf).symm.trans h
    | some k' =>
      cases ((classify_registered R i hi).1 k' hf).symm.trans h
      rw [RegLabel.toValue, to_from R i k hf]
  · cases (classify_out_of_range R i hi).1.symm.trans h

/-- non-vacuity: ES256 is -7 both ways; -65537 is private for algorithms and not registered; -65536 is neither. -/
example : Reg.algorithm.fromI64 (-7) = some Gen.idx_Algorithm_ES256 ∧ Reg.algorithm.toI64 Gen.idx_Algorithm_ES256 = -7 := by decide
example : RegLabelPriv.fromValue Reg.algorithm (.int (-65537)) = .ok (.privateUse (-65537)) := by decide
example : RegLabelPriv.fromValue Reg.algorithm (.int (-65536)) = .err .unregisteredIanaNonPrivate := by decide


#print axioms matches_reference_Algorithm
#print axioms matches_reference_HeaderParameter
#print axioms matches_reference_HeaderAlgorithmParameter
#print axioms matches_reference_KeyParameter
#print axioms matches_reference_KeyType
#print axioms matches_reference_Ec2KeyParameter
#print axioms matches_reference_OkpKeyParameter
#print axioms matches_reference_RsaKeyParameter
#print axioms matches_reference_SymmetricKeyParameter
#print axioms matches_reference_HssLmsKeyParameter
#print axioms matches_reference_WalnutDsaKeyParameter
#print axioms matches_reference_EllipticCurve
#print axioms matches_reference_KeyOperation
#print axioms matches_reference_CborTag
#print axioms matches_reference_CoapContentFormat
#print axioms matches_reference_CwtClaimName
#print axioms registries_complete
#print axioms values_nodup
#print axioms names_nodup
#print axioms inverse
#print axioms fromI64_injective
#print axioms private_registries
#print axioms is_private_iff
#print axioms no_registered_value_is_private
#print axioms classify_registered
#print axioms classify_with_private
#print axioms classify_out_of_range
#print axioms classify_text
#print axioms classify_roundtrip

end Coset.Props.C17
