/-
  C14 — tagged forms carry exactly the structure's registered CBOR tag.  Decoding: `pull` reads a tag head exactly from one of the
  five widths of that tag number (L0, both directions), and behind it the body is parsed as it would be alone (L3), with one unit
  less of the recursion budget.
-/
import CosetProofs.Cbor.ParseAppend
import CosetProofs.Cbor.FuelIrrelevant
import CosetProofs.Structures
namespace Coset.Props.C14
open Coset Coset.Cbor

/-- the six tags are the registered ones (RFC 8152 table 1), regenerated from the source on every run. -/
theorem tags : Gen.TAG_CoseSign = 98 ∧ Gen.TAG_CoseSign1 = 18 ∧ Gen.TAG_CoseEncrypt = 96 ∧ Gen.TAG_CoseEncrypt0 = 16 ∧
    Gen.TAG_CoseMac = 97 ∧ Gen.TAG_CoseMac0 = 17 := by decide

theorem tags_distinct : [Gen.TAG_CoseSign, Gen.TAG_CoseSign1, Gen.TAG_CoseEncrypt, Gen.TAG_CoseEncrypt0, Gen.TAG_CoseMac, Gen.TAG_CoseMac0].Nodup := by
  decide

/-- tagged encoding = the deterministic head of the tag, then the untagged encoding. -/
theorem encode {α : Type} (tag : Nat) (toV : α → Res Value) (x : α) :
    toTaggedVec tag toV x = (toVec toV x).map (fun b => encHead 6 tag ++ b) := by
  unfold toTaggedVec toVec
  cases toV x <;> simp [Res.map, enc]

/-- every well-formed head for tag number `t`: shortest or any wider form, written out so that the statements of C14 stand without
    the specification of encodings. -/
inductive TagHead (t : Nat) : Bytes → Prop where
  | tiny (h : t < 24) : TagHead t [UInt8.ofNat (6 * 32 + t)]
  | w1 (h : t < 256) : TagHead t (UInt8.ofNat (6 * 32 + 24) :: beN 1 t)
  | w2 (h : t < 65536) : TagHead t (UInt8.ofNat (6 * 32 + 25) :: beN 2 t)
  | w4 (h : t < 4294967296) : TagHead t (UInt8.ofNat (6 * 32 + 26) :: beN 4 t)
  | w8 (h : t < 18446744073709551616) : TagHead t (UInt8.ofNat (6 * 32 + 27) :: beN 8 t)

theorem TagHead.headW {t : Nat} {hd : Bytes} (h : TagHead t hd) : ∃ w : Spec.W, w.fits t ∧ hd = Spec.headW 6 w t := by
  cases h with
  | tiny h => exact ⟨.w0, h, rfl⟩
  | w1 h => exact ⟨.w1, h, rfl⟩
  | w2 h => exact ⟨.w2, h, rfl⟩
  | w4 h => exact ⟨.w4, h, rfl⟩
  | w8 h => exact ⟨.w8, h, rfl⟩

theorem pull_tagHead (t : Nat) (hd : Bytes) (hh : TagHead t hd) (b : Bytes) : pull (hd ++ b) = some (.tag t, b) := by
  obtain ⟨w, hf, rfl⟩ := hh.headW
  exact pull_headW 6 w t (by decide) hf b

theorem readToValue_tagged (t : Nat) (hd b : Bytes) (v : Value) (hh : TagHead t hd) (h2 : t ≠ 2) (h3 : t ≠ 3)
    (hb : parse (fuelFor b) (recursionLimit - 1) b = .ok (v, [])) : readToValue (hd ++ b) = .ok (.tag t v) := by
  have hl : 0 < hd.length := by obtain ⟨w, -, rfl⟩ := hh.headW; exact headW_length_pos 6 w t
  obtain ⟨f, hf⟩ : ∃ f, fuelFor (hd ++ b) = f + 1 := ⟨fuelFor (hd ++ b) - 1, by unfold fuelFor; omega⟩
  have hp : parse f (recursionLimit - 1) b = .ok (v, []) :=
    parse_mono hb (by unfold fuelFor at hf ⊢; simp only [List.length_append] at hf; omega) (Nat.le_refl _)
  rw [readToValue_ok_iff, fromReader, hf]
  -- not a bignum tag, so the look-ahead finds nothing to fold and the tagged item is parsed
  exact (parse_ok_iff (pull_tagHead t hd hh b)).mpr (.inr ⟨by simp [peek, h2, h3], by decide, v, hp, rfl⟩)

/-- C14 (decode, accept direction): the registered tag applied once to a body accepted within depth 255 decodes to what the untagged decoder gives. -/
theorem decode_tagged_eq_untagged {α : Type} (t : Nat) (conv : Value → Res α) (h b : Bytes) (v : Value)
    (hh : TagHead t h) (h2 : t ≠ 2) (h3 : t ≠ 3) (hb : parse (fuelFor b) (recursionLimit - 1) b = .ok (v, [])) :
    fromTaggedSlice t conv (h ++ b) = conv v ∧ fromSlice conv b = conv v := by
  constructor
  · rw [fromTaggedSlice_eq, fromSlice_of_read (readToValue_tagged t h b v hh h2 h3 hb), untag_tag]
    simp
  · have hv : fromReader b = .ok (v, []) := parse_mono hb (Nat.le_refl _) (by decide)
    exact fromSlice_of_read ((readToValue_ok_iff b v).mpr hv)

/-- tagged decoding rejects every item that is not a tag, and every tag number other than the type's. -/
theorem rejects_untagged {α : Type} (t : Nat) (conv : Value → Res α) (bs : Bytes) (v : Value)
    (hv : readToValue bs = .ok v) (hnt : ∀ t' w, v ≠ .tag t' w) : fromTaggedSlice t conv bs = .err .unexpectedItem := by
  rw [fromTaggedSlice_eq, fromSlice_of_read hv]
  cases v with
  | tag t' w => exact absurd rfl (hnt t' w)
  | _ => rfl

theorem rejects_other_tag {α : Type} (t t' : Nat) (conv : Value → Res α) (bs : Bytes) (w : Value)
    (hv : readToValue bs = .ok (.tag t' w)) (hne : t' ≠ t) : fromTaggedSlice t conv bs = .err .unexpectedItem := by
  rw [fromTaggedSlice_eq, fromSlice_of_read hv, untag_tag, if_pos (bne_iff_ne.mpr hne)]

/-- the six message conversions reject a tag item (so: untagged decoding rejects tagged input; a doubly tagged item is rejected). -/
theorem conversions_reject_tags (t : Nat) (w : Value) :
    CoseSign.fromValue (.tag t w) = .err .unexpectedItem ∧ CoseSign1.fromValue (.tag t w) = .err .unexpectedItem ∧
    CoseEncrypt.fromValue (.tag t w) = .err .unexpectedItem ∧ CoseEncrypt0.fromValue (.tag t w) = .err .unexpectedItem ∧
    CoseMac.fromValue (.tag t w) = .err .unexpectedItem ∧ CoseMac0.fromValue (.tag t w) = .err .unexpectedItem := by
  simp [CoseSign.fromValue, CoseSign1.fromValue, CoseEncrypt.fromValue, CoseEncrypt0.fromValue, CoseMac.fromValue, CoseMac0.fromValue,
    tryAsArray, typeError]

theorem untagged_rejects_tagged {α : Type} (conv : Value → Res α) (hconv : ∀ t w, conv (.tag t w) = .err .unexpectedItem)
    (bs : Bytes) (t : Nat) (w : Value) (hv : readToValue bs = .ok (.tag t w)) : fromSlice conv bs = .err .unexpectedItem := by
  rw [fromSlice_of_read hv]; exact hconv t w

theorem double_tag_rejected {α : Type} (t : Nat) (conv : Value → Res α) (hconv : ∀ t w, conv (.tag t w) = .err .unexpectedItem)
    (bs : Bytes) (t2 : Nat) (w : Value) (hv : readToValue bs = .ok (.tag t (.tag t2 w))) :
    fromTaggedSlice t conv bs = .err .unexpectedItem := by
  rw [fromTaggedSlice_eq, fromSlice_of_read hv, untag_tag, hconv]
  exact ite_self _

theorem decode_tagged_ok {α : Type} (t : Nat) (conv : Value → Res α) (bs : Bytes) (m : α)
    (h : fromTaggedSlice t conv bs = .ok m) : ∃ w, readToValue bs = .ok (.tag t w) ∧ conv w = .ok m :=
  let ⟨_, hv, hu⟩ := fromSlice_ok (fromTaggedSlice_eq ▸ h)
  let ⟨w, e, hc⟩ := untag_ok.mp hu
  ⟨w, e ▸ hv, hc⟩

theorem pull_tag_inv (bs rest : Bytes) (t : Nat) (h : pull bs = some (.tag t, rest)) : ∃ hd, TagHead t hd ∧ bs = hd ++ rest := by
  obtain ⟨m, minor, p, a, -, rfl, hA, hs⟩ := pull_eq_some.mp h
  obtain ⟨w, rfl⟩ := hdSel_arg hs t (.inr (.inr rfl))
  cases hdSel_tag hs
  cases hA with
  | small hlt => exact ⟨_, TagHead.tiny hlt, rfl⟩
  | @wide i hi _ hl =>
    have hlt := beVal_lt p
    have hp := beN_beVal _ p rfl
    rw [hl] at hlt hp
    obtain rfl | rfl | rfl | rfl : i = 0 ∨ i = 1 ∨ i = 2 ∨ i = 3 := by omega
    · exact ⟨_, TagHead.w1 hlt, by rw [hp]; rfl⟩
    · exact ⟨_, TagHead.w2 hlt, by rw [hp]; rfl⟩
    · exact ⟨_, TagHead.w4 hlt, by rw [hp]; rfl⟩
    · exact ⟨_, TagHead.w8 hlt, by rw [hp]; rfl⟩

/-- a tag item other than a bignum comes from a tag head that was not folded: the tagged item follows it, read with one unit less
    of the recursion budget. -/
theorem parse_tag_inv {fuel d t : Nat} {bs r : Bytes} {w : Value} (h : parse fuel d bs = .ok (.tag t w, r)) (h2 : t ≠ 2) (h3 : t ≠ 3) :
    ∃ f rest, fuel = f + 1 ∧ pull bs = some (.tag t, rest) ∧ parse f (d - 1) rest = .ok (w, r) := by
  obtain ⟨f, hd, rest, rfl, hp, hs⟩ := parse_ok_cases h
  cases hd with
  | tag t' =>
    rcases hs with ⟨b, hpk, hv⟩ | ⟨-, -, w', hc, hv⟩
    · -- folded: then `t'` is 2 or 3, and the result an integer or the same tag again
      obtain ⟨h23, -, -⟩ := peek_eq_some.mp hpk
      rcases hv.cases h23 with ⟨-, hv⟩ | ⟨-, hv⟩
      · cases hv
      · cases hv; omega
    · cases hv; exact ⟨f, rest, rfl, hp, hc⟩
  | _ => simp [ParseStep] at hs

/-- C14 (decode, converse direction), for a tag that is not a bignum tag: an input the tagged decoder accepts consists of a head of
    exactly that tag number (in one of its five widths) followed by an input that the *untagged* decoder accepts with the same value. -/
theorem decode_tagged_converse {α : Type} (t : Nat) (h2 : t ≠ 2) (h3 : t ≠ 3) (conv : Value → Res α) (bs : Bytes) (m : α)
    (h : fromTaggedSlice t conv bs = .ok m) : ∃ hd body, bs = hd ++ body ∧ TagHead t hd ∧ fromSlice conv body = .ok m := by
  obtain ⟨w, hr, hc⟩ := decode_tagged_ok t conv bs m h
  obtain ⟨f, rest, hf, hpl, hin⟩ := parse_tag_inv ((readToValue_ok_iff bs _).mp hr) h2 h3
  obtain ⟨hdb, hth, hbs⟩ := pull_tag_inv bs rest t hpl
  refine ⟨hdb, rest, hbs, hth, ?_⟩
  have hl := pull_length hpl
  have hfr : fromReader rest = .ok (w, []) := by
    rw [fromReader_eq_parse rest f (by unfold fuelFor at hf; omega)]
    exact parse_mono hin (Nat.le_refl _) (by decide)
  rw [fromSlice_of_read ((readToValue_ok_iff rest w).mpr hfr)]; exact hc

/-- the accept direction in the terms of the converse: tagged decoding accepts `bs` with value `m` if `bs` is a head of the type's
    tag followed by an input of nesting depth at most 255 that the untagged decoder accepts with value `m`.  (`decode_tagged_converse`
    is the "only if".  The depth condition is where the known finding D4 lives: a body of depth exactly 256 is accepted untagged and
    refused tagged.) -/
theorem decode_tagged_iff_partial {α : Type} (t : Nat) (h2 : t ≠ 2) (h3 : t ≠ 3) (conv : Value → Res α) (bs : Bytes) (m : α) :
    (∃ hd body v, bs = hd ++ body ∧ TagHead t hd ∧ parse (fuelFor body) (recursionLimit - 1) body = .ok (v, []) ∧ conv v = .ok m) →
      fromTaggedSlice t conv bs = .ok m := by
  rintro ⟨hd, body, v, rfl, hth, hpb, hc⟩
  rw [(decode_tagged_eq_untagged t conv hd body v hth h2 h3 hpb).1, hc]

/-- non-vacuity: `d2 84 40 a0 f6 40` is a tagged COSE_Sign1; with tag 17 it is rejected; untagged decoding rejects it too. -/
example : (fromTaggedSlice Gen.TAG_CoseSign1 CoseSign1.fromValue [0xd2, 0x84, 0x40, 0xa0, 0xf6, 0x40]).isOk = true := by decide +kernel
example : (fromTaggedSlice Gen.TAG_CoseMac0 CoseMac0.fromValue [0xd2, 0x84, 0x40, 0xa0, 0xf6, 0x40]).isOk = false := by decide +kernel
example : (fromSlice CoseSign1.fromValue [0xd2, 0x84, 0x40, 0xa0, 0xf6, 0x40]).isOk = false := by decide +kernel
example : TagHead 18 [0xd8, 0x12] := TagHead.w1 (by decide)

#print axioms tags
#print axioms tags_distinct
#print axioms encode
#print axioms pull_tagHead
#print axioms readToValue_tagged
#print axioms decode_tagged_eq_untagged
#print axioms rejects_untagged
#print axioms rejects_other_tag
#print axioms conversions_reject_tags
#print axioms untagged_rejects_tagged
#print axioms double_tag_rejected
#print axioms decode_tagged_ok
#print axioms pull_tag_inv
#print axioms decode_tagged_converse
#print axioms decode_tagged_iff_partial

end Coset.Props.C14
