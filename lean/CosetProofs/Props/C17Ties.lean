/- C17: ties to the source text.  Built and audited together with Props/C17.lean by check.py, but in a module of its own, so that a
   changed textual fact breaks the obligations of the properties that own it and not those of every module that imports their lemmas. -/
import CosetProofs.Ties.IanaMacro
import CosetProofs.Ties.Budget.Iana
import CosetProofs.Ties.Compare.Common
import CosetProofs.Ties.Compare.Iana
namespace Coset.Props.C17

/-- the `iana_registry!` macro (which turns the tables into `from_i64` / `to_i64`) is unchanged; its behaviour is compared over a window by the correspondence. -/
theorem tie_iana_macro : Coset.Gen.ianaMacroHash = Coset.Pinned.ianaMacroHash := Coset.Ties.iana_macro

#print axioms tie_iana_macro

/-- decision budget of `src/iana/mod.rs`: no branch, comparison or integer literal beyond the transcribed tree's (a needle no stream reaches still adds one). -/
theorem tie_budget_iana : Coset.Ties.budgetCovered "iana" Coset.Gen.decisionBudget Coset.Pinned.decisionBudget = true := Coset.Ties.budget_iana

#print axioms tie_budget_iana

/-! comparisons and integer literals of the modules this property is anchored in (properties.jsonl): none beyond the transcribed tree's -/
theorem tie_compare_common : Coset.Ties.compareCovered "common" Coset.Gen.decisionBudget Coset.Pinned.decisionBudget = true := Coset.Ties.compare_common
theorem tie_compare_iana : Coset.Ties.compareCovered "iana" Coset.Gen.decisionBudget Coset.Pinned.decisionBudget = true := Coset.Ties.compare_iana

#print axioms tie_compare_common
#print axioms tie_compare_iana

end Coset.Props.C17
