/- C14: ties to the source text.  Built and audited together with Props/C14.lean by check.py, but in a module of its own, so that a
   changed textual fact breaks the obligations of the properties that own it and not those of every module that imports their lemmas. -/
import CosetProofs.Ties.Serializable
import CosetProofs.Ties.Compare.Common
import CosetProofs.Ties.Compare.Encrypt
import CosetProofs.Ties.Compare.Iana
import CosetProofs.Ties.Compare.Mac
import CosetProofs.Ties.Compare.Sign
namespace Coset.Props.C14

/-- the six `TaggedCborSerializable` impls consist of their `TAG` constant only. -/
theorem tie_serializable_impls : Coset.Gen.serializableImpls = Coset.Pinned.serializableImpls := Coset.Ties.serializable_impls
/-- the provided tagged methods are the ones the model transcribes. -/
theorem tie_default_bodies : Coset.Gen.defaultBodies = Coset.Pinned.defaultBodies := Coset.Ties.default_bodies

#print axioms tie_serializable_impls
#print axioms tie_default_bodies

/-! comparisons and integer literals of the modules this property is anchored in (properties.jsonl): none beyond the transcribed tree's -/
theorem tie_compare_common : Coset.Ties.compareCovered "common" Coset.Gen.decisionBudget Coset.Pinned.decisionBudget = true := Coset.Ties.compare_common
theorem tie_compare_encrypt : Coset.Ties.compareCovered "encrypt" Coset.Gen.decisionBudget Coset.Pinned.decisionBudget = true := Coset.Ties.compare_encrypt
theorem tie_compare_iana : Coset.Ties.compareCovered "iana" Coset.Gen.decisionBudget Coset.Pinned.decisionBudget = true := Coset.Ties.compare_iana
theorem tie_compare_mac : Coset.Ties.compareCovered "mac" Coset.Gen.decisionBudget Coset.Pinned.decisionBudget = true := Coset.Ties.compare_mac
theorem tie_compare_sign : Coset.Ties.compareCovered "sign" Coset.Gen.decisionBudget Coset.Pinned.decisionBudget = true := Coset.Ties.compare_sign

#print axioms tie_compare_common
#print axioms tie_compare_encrypt
#print axioms tie_compare_iana
#print axioms tie_compare_mac
#print axioms tie_compare_sign

end Coset.Props.C14
