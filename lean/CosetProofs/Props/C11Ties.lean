/- C11: ties to the source text.  Built and audited together with Props/C11.lean by check.py, but in a module of its own, so that a
   changed textual fact breaks the obligations of the properties that own it and not those of every module that imports their lemmas. -/
import CosetProofs.Ties.EmitOrder
import CosetProofs.Ties.HeaderFields
import CosetProofs.Ties.Compare.Common
import CosetProofs.Ties.Compare.Context
import CosetProofs.Ties.Compare.Cwt
import CosetProofs.Ties.Compare.Encrypt
import CosetProofs.Ties.Compare.Header
import CosetProofs.Ties.Compare.Key
import CosetProofs.Ties.Compare.Mac
import CosetProofs.Ties.Compare.Sign
import CosetProofs.Ties.IanaTables
namespace Coset.Props.C11

/-- the order in which every array-shaped `to_cbor_value` emits its fields. -/
theorem tie_emit_order : Coset.Ties.genEmitOrders = Coset.Ties.pinnedEmitOrders := Coset.Ties.emit_order
/-- `Header::is_empty` tests every field of `struct Header`. -/
theorem tie_header_is_empty : Coset.Gen.headerFields = Coset.Pinned.headerFields ∧ Coset.Gen.headerIsEmptyTests = Coset.Pinned.headerIsEmptyTests := ⟨Coset.Ties.header_fields, Coset.Ties.header_is_empty_tests⟩

#print axioms tie_emit_order
#print axioms tie_header_is_empty

/-! comparisons and integer literals of the modules this property is anchored in (properties.jsonl): none beyond the transcribed tree's -/
theorem tie_compare_common : Coset.Ties.compareCovered "common" Coset.Gen.decisionBudget Coset.Pinned.decisionBudget = true := Coset.Ties.compare_common
theorem tie_compare_context : Coset.Ties.compareCovered "context" Coset.Gen.decisionBudget Coset.Pinned.decisionBudget = true := Coset.Ties.compare_context
theorem tie_compare_cwt : Coset.Ties.compareCovered "cwt" Coset.Gen.decisionBudget Coset.Pinned.decisionBudget = true := Coset.Ties.compare_cwt
theorem tie_compare_encrypt : Coset.Ties.compareCovered "encrypt" Coset.Gen.decisionBudget Coset.Pinned.decisionBudget = true := Coset.Ties.compare_encrypt
theorem tie_compare_header : Coset.Ties.compareCovered "header" Coset.Gen.decisionBudget Coset.Pinned.decisionBudget = true := Coset.Ties.compare_header
theorem tie_compare_key : Coset.Ties.compareCovered "key" Coset.Gen.decisionBudget Coset.Pinned.decisionBudget = true := Coset.Ties.compare_key
theorem tie_compare_mac : Coset.Ties.compareCovered "mac" Coset.Gen.decisionBudget Coset.Pinned.decisionBudget = true := Coset.Ties.compare_mac
theorem tie_compare_sign : Coset.Ties.compareCovered "sign" Coset.Gen.decisionBudget Coset.Pinned.decisionBudget = true := Coset.Ties.compare_sign

#print axioms tie_compare_common
#print axioms tie_compare_context
#print axioms tie_compare_cwt
#print axioms tie_compare_encrypt
#print axioms tie_compare_header
#print axioms tie_compare_key
#print axioms tie_compare_mac
#print axioms tie_compare_sign

/-- the registry tables the streams of this property build values from (by name) are the IANA assignments. -/
theorem tie_iana_tables : Coset.Ties.IanaTablesOk := Coset.Ties.iana_tables

#print axioms tie_iana_tables

end Coset.Props.C11
