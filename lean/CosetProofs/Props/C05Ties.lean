/- C05: ties to the source text.  Built and audited together with Props/C05.lean by check.py, but in a module of its own, so that a
   changed textual fact breaks the obligations of the properties that own it and not those of every module that imports their lemmas. -/
import CosetProofs.Ties.ContextRouting
import CosetProofs.Ties.RecipientGuards
import CosetProofs.Ties.Budget.Encrypt
import CosetProofs.Ties.Compare.Encrypt
import CosetProofs.Ties.Compare.Header
import CosetProofs.Ties.IanaTables
namespace Coset.Props.C05

/-- which context constant each helper passes to which structure function. -/
theorem tie_context_routing : Coset.Gen.contextRouting = Coset.Pinned.contextRouting := Coset.Ties.context_routing
/-- the set of contexts the recipient operations let through. -/
theorem tie_recipient_guards : Coset.Gen.recipientGuards = Coset.Pinned.recipientGuards := Coset.Ties.recipient_guards

#print axioms tie_context_routing
#print axioms tie_recipient_guards

/-- decision budget of `src/encrypt/mod.rs`: no branch, comparison or integer literal beyond the transcribed tree's (a needle no stream reaches still adds one). -/
theorem tie_budget_encrypt : Coset.Ties.budgetCovered "encrypt" Coset.Gen.decisionBudget Coset.Pinned.decisionBudget = true := Coset.Ties.budget_encrypt

#print axioms tie_budget_encrypt

/-! comparisons and integer literals of the modules this property is anchored in (properties.jsonl): none beyond the transcribed tree's -/
theorem tie_compare_encrypt : Coset.Ties.compareCovered "encrypt" Coset.Gen.decisionBudget Coset.Pinned.decisionBudget = true := Coset.Ties.compare_encrypt
theorem tie_compare_header : Coset.Ties.compareCovered "header" Coset.Gen.decisionBudget Coset.Pinned.decisionBudget = true := Coset.Ties.compare_header

#print axioms tie_compare_encrypt
#print axioms tie_compare_header

/-- the registry tables the streams of this property build values from (by name) are the IANA assignments. -/
theorem tie_iana_tables : Coset.Ties.IanaTablesOk := Coset.Ties.iana_tables

#print axioms tie_iana_tables

end Coset.Props.C05
