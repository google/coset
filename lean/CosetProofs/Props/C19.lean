/-
  C19 — builders apply exactly the documented effect of each call, in any order.
-/
import CosetProofs.RunOps
import CosetProofs.Roundtrip.SetOrder
namespace Coset.Props.C19
open Coset

theorem runOps_inv {β ο : Type} (apply : β → ο → Step β) (Inv : β → Prop) (step : ∀ b o b', Inv b → apply b o = .next b' → Inv b') :
    ∀ (ops : List ο) (b : β) (i : Nat) (b' : β), Inv b → (runOps apply ops b i).1 = .next b' → Inv b' :=
  fun ops b i b' => runOps_inv_mem apply Inv ops b i b' fun o _ b b' => step b o b'

/-- a call sequence stops at the first call that panics or whose closure fails, and reports that call's index. -/
theorem runOps_stops {β ο : Type} (apply : β → ο → Step β) (pre : List ο) (o : ο) (post : List ο) (b b1 : β) (i : Nat)
    (hp : runOps apply pre b i = (.next b1, i + pre.length)) :
    (∀ s, apply b1 o = .panic s → runOps apply (pre ++ o :: post) b i = (.panic s, i + pre.length)) ∧
    (∀ n, apply b1 o = .fail n → runOps apply (pre ++ o :: post) b i = (.fail n, i + pre.length)) := by
  simp only [runOps_append, hp, runOps]
  exact ⟨fun s h => by rw [h], fun n h => by rw [h]⟩

/-- the documented effect of each `HeaderBuilder` call on a header (`none` = refused with a panic). -/
def headerEffect (h : Header) : HeaderOp → Option Header
  | .keyId b => some (.mk h.alg h.crit h.contentType b h.iv h.partialIv h.counterSignatures h.rest)
  | .algorithm k => some (.mk (some (.assigned k)) h.crit h.contentType h.keyId h.iv h.partialIv h.counterSignatures h.rest)
  | .addCritical k => some (.mk h.alg (h.crit ++ [.assigned k]) h.contentType h.keyId h.iv h.partialIv h.counterSignatures h.rest)
  | .addCriticalLabel l => some (.mk h.alg (h.crit ++ [l]) h.contentType h.keyId h.iv h.partialIv h.counterSignatures h.rest)
  | .contentFormat k => some (.mk h.alg h.crit (some (.assigned k)) h.keyId h.iv h.partialIv h.counterSignatures h.rest)
  | .contentType t => some (.mk h.alg h.crit (some (.text t)) h.keyId h.iv h.partialIv h.counterSignatures h.rest)
  | .iv b => some (.mk h.alg h.crit h.contentType h.keyId b [] h.counterSignatures h.rest)
  | .partialIv b => some (.mk h.alg h.crit h.contentType h.keyId [] b h.counterSignatures h.rest)
  | .addCounterSignature s => some (.mk h.alg h.crit h.contentType h.keyId h.iv h.partialIv (h.counterSignatures ++ [s]) h.rest)
  | .value l v => if 1 ≤ l ∧ l ≤ 7 then none
                  else some (.mk h.alg h.crit h.contentType h.keyId h.iv h.partialIv h.counterSignatures (h.rest ++ [(.int l, v)]))
  | .textValue l v => some (.mk h.alg h.crit h.contentType h.keyId h.iv h.partialIv h.counterSignatures (h.rest ++ [(.text l, v)]))

theorem header_value_guard (l : Int) : headerValueReserved l = true ↔ (1 ≤ l ∧ l ≤ 7) := by
  simp [headerValueReserved, Registry.toI64, Reg.headerParameter, Gen.HeaderParameter, Gen.idx_HeaderParameter_Alg,
    Gen.idx_HeaderParameter_CounterSignature]

theorem header_apply_eq (h : Header) (op : HeaderOp) :
    HeaderOp.apply h op = match headerEffect h op with | some h' => .next h' | none => .panic .explicitPanic := by
  cases op
  case value l v =>
    by_cases hl : 1 ≤ l ∧ l ≤ 7
    · rw [headerEffect, HeaderOp.apply, if_pos hl, if_pos ((header_value_guard l).mpr hl)]
    · rw [headerEffect, HeaderOp.apply, if_neg hl, if_neg (mt (header_value_guard l).mp hl)]; rfl
  all_goals rfl

/-- every `HeaderBuilder` call has exactly its documented effect (and `value` panics exactly on labels 1..7). -/
theorem header_apply (h : Header) (op : HeaderOp) :
    (∀ h', headerEffect h op = some h' → HeaderOp.apply h op = .next h') ∧
    (headerEffect h op = none → ∃ s, HeaderOp.apply h op = .panic s) := by
  rw [header_apply_eq]
  exact ⟨fun h' e => by rw [e], fun e => ⟨_, by rw [e]⟩⟩

/-- through this the effect table, whose results are written field by field, serves as the lemmas about the setters. -/
theorem header_effect_of_next (h h' : Header) (op : HeaderOp) (hs : HeaderOp.apply h op = .next h') : headerEffect h op = some h' := by
  rw [header_apply_eq] at hs
  cases he : headerEffect h op with
  | some h1 => rw [he] at hs; cases hs; rfl
  | none => rw [he] at hs; cases hs

theorem headerEffect_value {h h' : Header} {l : Int} {v : Value} (he : headerEffect h (.value l v) = some h') : ¬ (1 ≤ l ∧ l ≤ 7) ∧
    h' = .mk h.alg h.crit h.contentType h.keyId h.iv h.partialIv h.counterSignatures (h.rest ++ [(.int l, v)]) := by
  by_cases hl : 1 ≤ l ∧ l ≤ 7
  · rw [headerEffect, if_pos hl] at he; cases he
  · rw [headerEffect, if_neg hl] at he; cases he; exact ⟨hl, rfl⟩

/-- not both an IV and a Partial IV: kept by every `HeaderBuilder` call, so true of a built header whatever the call sequence. -/
def IvExclusive (h : Header) : Prop := h.iv = [] ∨ h.partialIv = []

theorem iv_exclusive_step (h : Header) (op : HeaderOp) (h' : Header) (hi : IvExclusive h) (hs : HeaderOp.apply h op = .next h') :
    IvExclusive h' := by
  have he := header_effect_of_next h h' op hs
  cases op
  case iv b => cases he; exact Or.inr rfl
  case partialIv b => cases he; exact Or.inl rfl
  case value l v => obtain ⟨-, rfl⟩ := headerEffect_value he; exact hi
  all_goals cases he; exact hi

theorem iv_exclusive (ops : List HeaderOp) (h : Header) (i : Nat) (hi : IvExclusive h) (h' : Header)
    (hr : (runOps HeaderOp.apply ops h i).1 = .next h') : IvExclusive h' :=
  runOps_inv HeaderOp.apply IvExclusive iv_exclusive_step ops h i h' hi hr

theorem iv_exclusive_from_new (ops : List HeaderOp) (h' : Header) (hr : (runOps HeaderOp.apply ops Header.default 0).1 = .next h') :
    ¬ (h'.iv ≠ [] ∧ h'.partialIv ≠ []) :=
  fun ⟨h1, h2⟩ => (iv_exclusive ops Header.default 0 (Or.inl rfl) h' hr).elim h1 h2

/-- a later call of a setter overrides an earlier one; calls on different fields commute. -/
theorem header_setter_overrides (h : Header) (b1 b2 : Bytes) :
    (runOps HeaderOp.apply [.keyId b1, .keyId b2] h 0).1 = (runOps HeaderOp.apply [.keyId b2] h 0).1 :=
  rfl

theorem header_setters_commute (h : Header) (b : Bytes) (k : Nat) :
    (runOps HeaderOp.apply [.keyId b, .algorithm k] h 0).1 = (runOps HeaderOp.apply [.algorithm k, .keyId b] h 0).1 :=
  rfl

theorem sign1_setter_frame (m : CoseSign1) (b : Bytes) :
    Sign1Op.apply m (.payload b) = .next { m with payload := some b } ∧ Sign1Op.apply m (.signature b) = .next { m with signature := b } := ⟨rfl, rfl⟩

/-- setting a protected header discards any previously retained wire bytes. -/
theorem protected_discards_original (m : CoseSign1) (h : Header) :
    Sign1Op.apply m (.protected_ h) = .next { m with protected_ := .mk none h } := rfl
theorem protected_discards_original_all (h : Header) (s : CoseSignature) (sg : CoseSign) (mc : CoseMac) (m0 : CoseMac0)
    (e : CoseEncrypt) (e0 : CoseEncrypt0) (r : CoseRecipient) (sp : SuppPubInfo) :
    SignatureOp.apply s (.protected_ h) = .next (.mk (.mk none h) s.unprotected s.signature) ∧
    SignOp.apply sg (.protected_ h) = .next { sg with protected_ := .mk none h } ∧
    MacOp.apply mc (.protected_ h) = .next { mc with protected_ := .mk none h } ∧
    Mac0Op.apply m0 (.protected_ h) = .next { m0 with protected_ := .mk none h } ∧
    EncryptOp.apply e (.protected_ h) = .next { e with protected_ := .mk none h } ∧
    Encrypt0Op.apply e0 (.protected_ h) = .next { e0 with protected_ := .mk none h } ∧
    RecipientOp.apply r (.protected_ h) = .next (.mk (.mk none h) r.unprotected r.ciphertext r.recipients) ∧
    SuppOp.apply sp (.protected_ h) = .next { sp with protected_ := .mk none h } := ⟨rfl, rfl, rfl, rfl, rfl, rfl, rfl, rfl⟩

/-- adders append in call order. -/
theorem adders_append (m : CoseSign) (s1 s2 : CoseSignature) :
    (runOps SignOp.apply [.addSignature s1, .addSignature s2] m 0).1 = .next { m with signatures := m.signatures ++ [s1, s2] } := by
  simp only [runOps, SignOp.apply, List.append_assoc, List.cons_append, List.nil_append]

/-- `from_i64` answers exactly on the values of the table's rows, here 0..5. -/
theorem key_param_guard (l : Int) : keyParamReserved l = true ↔ (0 ≤ l ∧ l ≤ 5) := by
  simp only [keyParamReserved, Registry.fromI64, List.findIdx?_isSome, Reg.keyParameter, Gen.KeyParameter, List.any_cons, List.any_nil,
    beq_iff_eq, Bool.or_false, Bool.or_eq_true]
  omega

theorem key_param (k : CoseKey) (l : Int) (v : Value) :
    (keyParamReserved l = true → ∃ s, KeyOp.apply k (.param l v) = .panic s) ∧
    (keyParamReserved l = false → KeyOp.apply k (.param l v) = .next { k with params := k.params ++ [(.int l, v)] }) := by
  constructor <;> intro h <;> simp [KeyOp.apply, h]

theorem claim_guard (k : Nat) : claimReserved k = true ↔ (1 ≤ Reg.cwtClaimName.toI64 k ∧ Reg.cwtClaimName.toI64 k ≤ 7) := by
  simp [claimReserved, Registry.toI64, Reg.cwtClaimName, Gen.CwtClaimName, Gen.idx_CwtClaimName_Iss, Gen.idx_CwtClaimName_Cti]

theorem claims_claim (c : ClaimsSet) (k : Nat) (v : Value) :
    (claimReserved k = true → ∃ s, ClaimsOp.apply c (.claim k v) = .panic s) ∧
    (claimReserved k = false → ClaimsOp.apply c (.claim k v) = .next { c with rest := c.rest ++ [(.assigned k, v)] }) := by
  constructor <;> intro h <;> simp [ClaimsOp.apply, h]

theorem claims_privateClaim (c : ClaimsSet) (id : Int) (v : Value) :
    (¬ id < -65536 → ∃ s, ClaimsOp.apply c (.privateClaim id v) = .panic s) ∧
    (id < -65536 → ClaimsOp.apply c (.privateClaim id v) = .next { c with rest := c.rest ++ [(.privateUse id, v)] }) := by
  constructor <;> intro h <;> simp [ClaimsOp.apply, Registry.private?, Reg.cwtClaimName, Gen.CwtClaimName_isPrivate, h]

theorem claims_guards (c : ClaimsSet) (k : Nat) (id : Int) (v : Value) :
    (claimReserved k = true → ∃ s, ClaimsOp.apply c (.claim k v) = .panic s) ∧
    (claimReserved k = false → ClaimsOp.apply c (.claim k v) = .next { c with rest := c.rest ++ [(.assigned k, v)] }) ∧
    (¬ id < -65536 → ∃ s, ClaimsOp.apply c (.privateClaim id v) = .panic s) ∧
    (id < -65536 → ClaimsOp.apply c (.privateClaim id v) = .next { c with rest := c.rest ++ [(.privateUse id, v)] }) :=
  ⟨(claims_claim c k v).1, (claims_claim c k v).2, (claims_privateClaim c id v).1, (claims_privateClaim c id v).2⟩

/-- the key constructors populate exactly the key type and parameters they name. -/
theorem constructors (curve : Nat) (x y d kb : Bytes) (ys : Bool) :
    newEc2PubKey curve x y = ⟨.assigned Gen.idx_KeyType_EC2, [], none, [], [],
      [(.int (-1), .int (Reg.ellipticCurve.toI64 curve)), (.int (-2), .bytes x), (.int (-3), .bytes y)]⟩ ∧
    newEc2PubKeyYSign curve x ys = ⟨.assigned Gen.idx_KeyType_EC2, [], none, [], [],
      [(.int (-1), .int (Reg.ellipticCurve.toI64 curve)), (.int (-2), .bytes x), (.int (-3), .bool ys)]⟩ ∧
    newEc2PrivKey curve x y d = ⟨.assigned Gen.idx_KeyType_EC2, [], none, [], [],
      [(.int (-1), .int (Reg.ellipticCurve.toI64 curve)), (.int (-2), .bytes x), (.int (-3), .bytes y), (.int (-4), .bytes d)]⟩ ∧
    newSymmetricKey kb = ⟨.assigned Gen.idx_KeyType_Symmetric, [], none, [], [], [(.int (-1), .bytes kb)]⟩ ∧
    newOkpKey = ⟨.assigned Gen.idx_KeyType_OKP, [], none, [], [], []⟩ :=
  ⟨rfl, rfl, rfl, rfl, rfl⟩

theorem key_types_named : Reg.keyType.toI64 Gen.idx_KeyType_EC2 = 2 ∧ Reg.keyType.toI64 Gen.idx_KeyType_Symmetric = 4 ∧
    Reg.keyType.toI64 Gen.idx_KeyType_OKP = 1 := by decide

/-- the extra parameters of a built header never sit under a label reserved for a typed field (1..7), whatever the call sequence. -/
def RestClean (h : Header) : Prop := ∀ p ∈ h.rest, ∀ l, p.1 = .int l → ¬ (1 ≤ l ∧ l ≤ 7)

theorem forall_mem_concat {α : Type} {Q : α → Prop} {r : List α} {e : α} (hr : ∀ p ∈ r, Q p) (he : Q e) : ∀ p ∈ r ++ [e], Q p :=
  List.forall_mem_append.mpr ⟨hr, List.forall_mem_singleton.mpr he⟩

theorem header_rest_clean (ops : List HeaderOp) (h' : Header) (hr : (runOps HeaderOp.apply ops Header.default 0).1 = .next h') :
    RestClean h' := by
  refine runOps_inv HeaderOp.apply RestClean ?_ ops Header.default 0 h' nofun hr
  intro h op h1 hi hs
  have he := header_effect_of_next h h1 op hs
  cases op
  case value l v => obtain ⟨hl, rfl⟩ := headerEffect_value he; exact forall_mem_concat hi fun l' hl' => by cases hl'; exact hl
  case textValue t v => cases he; exact forall_mem_concat hi nofun
  all_goals cases he; exact hi

/-- `key_ops` is a set: after any call sequence it is strictly ascending (no repetition), and `add_key_op` inserts. -/
theorem key_add_op (k : CoseKey) (i : Nat) (hs : Asc (RegLabel.cmp Reg.keyOperation) k.keyOps) :
    (∃ s, KeyOp.apply k (.addKeyOp i) = .next { k with keyOps := s } ∧ Asc (RegLabel.cmp Reg.keyOperation) s ∧
      ∀ z, z ∈ s ↔ (z = .assigned i ∨ z ∈ k.keyOps)) ∨
    (KeyOp.apply k (.addKeyOp i) = .next k ∧ ∃ y ∈ k.keyOps, RegLabel.cmp Reg.keyOperation (.assigned i) y = .ok .eq) := by
  rcases setInsert_total (fun a b => ⟨_, RegLabel.cmp_ord Reg.keyOperation a b⟩) k.keyOps (.assigned i) with ⟨r, hr⟩ | ⟨hn, hy⟩
  · exact Or.inl ⟨r, by simp [KeyOp.apply, hr], setInsert_asc (RegLabel.cmp_ord Reg.keyOperation) k.keyOps (.assigned i) r hs hr,
      setInsert_mem hr⟩
  · exact Or.inr ⟨by simp [KeyOp.apply, hn], hy⟩

def KeyClean (k : CoseKey) : Prop :=
  Asc (RegLabel.cmp Reg.keyOperation) k.keyOps ∧ ∀ p ∈ k.params, ∀ l, p.1 = .int l → ¬ (0 ≤ l ∧ l ≤ 5)

theorem key_step_clean (k : CoseKey) (op : KeyOp) (k' : CoseKey) (hi : KeyClean k) (hs : KeyOp.apply k op = .next k') : KeyClean k' := by
  cases op
  case addKeyOp i =>
    rcases key_add_op k i hi.1 with ⟨s, h1, h2, _⟩ | ⟨h1, _⟩ <;> rw [h1] at hs <;> cases hs
    · exact ⟨h2, hi.2⟩
    · exact hi
  case param l v =>
    rw [KeyOp.apply] at hs
    by_cases hg : keyParamReserved l = true
    · rw [if_pos hg] at hs; cases hs
    · rw [if_neg hg] at hs; cases hs
      exact ⟨hi.1, forall_mem_concat hi.2 fun l' hl' => by cases hl'; exact mt (key_param_guard l).mpr hg⟩
  all_goals cases hs; exact hi

/-- every key built from a constructor by any call sequence: `key_ops` is a set and no extra parameter shadows a common parameter. -/
theorem key_clean (ops : List KeyOp) (k0 k' : CoseKey) (h0 : KeyClean k0) (hr : (runOps KeyOp.apply ops k0 0).1 = .next k') : KeyClean k' :=
  runOps_inv KeyOp.apply KeyClean key_step_clean ops k0 0 k' h0 hr

theorem constructors_clean (curve : Nat) (x y d kb : Bytes) (ys : Bool) :
    KeyClean (newEc2PubKey curve x y) ∧ KeyClean (newEc2PubKeyYSign curve x ys) ∧ KeyClean (newEc2PrivKey curve x y d) ∧
    KeyClean (newSymmetricKey kb) ∧ KeyClean newOkpKey := by
  -- no key operations yet, and the constructors' own parameters sit under negative labels
  have neg : ∀ (t : RegLabel) (ps : List (Label × Value)), (ps.all fun p => match p.1 with | .int l => l < 0 | .text _ => true) = true →
      KeyClean ⟨t, [], none, [], [], ps⟩ := fun t ps h => ⟨.nil, fun p hp l hl => by
    have := List.all_eq_true.mp h p hp; rw [hl] at this; have := of_decide_eq_true this; omega⟩
  obtain ⟨h1, h2, h3, h4, h5⟩ := constructors curve x y d kb ys
  rw [h1, h2, h3, h4, h5]
  exact ⟨neg _ _ rfl, neg _ _ rfl, neg _ _ rfl, neg _ _ rfl, neg _ _ rfl⟩

/-- a built claims set: no extra claim under a name reserved for a typed claim (1..7), no private-use entry outside the private range. -/
def ClaimsClean (c : ClaimsSet) : Prop :=
  ∀ p ∈ c.rest, (∀ k, p.1 = .assigned k → ¬ (1 ≤ Reg.cwtClaimName.toI64 k ∧ Reg.cwtClaimName.toI64 k ≤ 7)) ∧
    (∀ id, p.1 = .privateUse id → id < -65536)

theorem claims_clean (ops : List ClaimsOp) (c' : ClaimsSet) (hr : (runOps ClaimsOp.apply ops ClaimsSet.default 0).1 = .next c') :
    ClaimsClean c' := by
  refine runOps_inv ClaimsOp.apply ClaimsClean ?_ ops ClaimsSet.default 0 c' nofun hr
  intro c op c1 hi hs
  cases op
  case claim k v =>
    by_cases hg : claimReserved k = true
    · obtain ⟨s, hs'⟩ := (claims_claim c k v).1 hg; rw [hs'] at hs; cases hs
    · rw [(claims_claim c k v).2 (Bool.eq_false_iff.mpr hg)] at hs; cases hs
      exact forall_mem_concat hi ⟨fun k' hk' => by cases hk'; exact mt (claim_guard k).mpr hg, nofun⟩
  case textClaim n v => cases hs; exact forall_mem_concat hi ⟨nofun, nofun⟩
  case privateClaim id v =>
    by_cases hp : id < -65536
    · rw [(claims_privateClaim c id v).2 hp] at hs; cases hs
      exact forall_mem_concat hi ⟨nofun, fun id' hid' => by cases hid'; exact hp⟩
    · obtain ⟨s, hs'⟩ := (claims_privateClaim c id v).1 hp; rw [hs'] at hs; cases hs
  all_goals cases hs; exact hi

/-- the plain setters of every other builder: the call replaces its field and leaves all others untouched; adders append. -/
theorem setters_frame (s : CoseSignature) (sg : CoseSign) (m1 : CoseSign1) (mc : CoseMac) (m0 : CoseMac0) (e : CoseEncrypt) (e0 : CoseEncrypt0)
    (r r2 : CoseRecipient) (pi : PartyInfo) (sp : SuppPubInfo) (kc : CoseKdfContext) (h : Header) (b : Bytes) (n : Nonce) (len : Int) (a : Nat) (sig : CoseSignature) :
    SignatureOp.apply s (.unprotected h) = .next (.mk s.protected_ h s.signature) ∧
    SignatureOp.apply s (.signature b) = .next (.mk s.protected_ s.unprotected b) ∧
    SignOp.apply sg (.unprotected h) = .next { sg with unprotected := h } ∧
    SignOp.apply sg (.payload b) = .next { sg with payload := some b } ∧
    SignOp.apply sg (.addSignature sig) = .next { sg with signatures := sg.signatures ++ [sig] } ∧
    Sign1Op.apply m1 (.unprotected h) = .next { m1 with unprotected := h } ∧
    MacOp.apply mc (.unprotected h) = .next { mc with unprotected := h } ∧
    MacOp.apply mc (.tag b) = .next { mc with tag := b } ∧
    MacOp.apply mc (.payload b) = .next { mc with payload := some b } ∧
    MacOp.apply mc (.addRecipient r2) = .next { mc with recipients := mc.recipients ++ [r2] } ∧
    Mac0Op.apply m0 (.unprotected h) = .next { m0 with unprotected := h } ∧
    Mac0Op.apply m0 (.tag b) = .next { m0 with tag := b } ∧
    Mac0Op.apply m0 (.payload b) = .next { m0 with payload := some b } ∧
    EncryptOp.apply e (.unprotected h) = .next { e with unprotected := h } ∧
    EncryptOp.apply e (.ciphertext b) = .next { e with ciphertext := some b } ∧
    EncryptOp.apply e (.addRecipient r2) = .next { e with recipients := e.recipients ++ [r2] } ∧
    Encrypt0Op.apply e0 (.unprotected h) = .next { e0 with unprotected := h } ∧
    Encrypt0Op.apply e0 (.ciphertext b) = .next { e0 with ciphertext := some b } ∧
    RecipientOp.apply r (.unprotected h) = .next (.mk r.protected_ h r.ciphertext r.recipients) ∧
    RecipientOp.apply r (.ciphertext b) = .next (.mk r.protected_ r.unprotected (some b) r.recipients) ∧
    RecipientOp.apply r (.addRecipient r2) = .next (.mk r.protected_ r.unprotected r.ciphertext (r.recipients ++ [r2])) ∧
    PartyOp.apply pi (.identity b) = .next { pi with identity := some b } ∧
    PartyOp.apply pi (.nonce n) = .next { pi with nonce := some n } ∧
    PartyOp.apply pi (.other b) = .next { pi with other := some b } ∧
    SuppOp.apply sp (.keyDataLength len) = .next { sp with keyDataLength := len } ∧
    SuppOp.apply sp (.other b) = .next { sp with other := some b } ∧
    KdfOp.apply kc (.partyUInfo pi) = .next { kc with partyUInfo := pi } ∧
    KdfOp.apply kc (.partyVInfo pi) = .next { kc with partyVInfo := pi } ∧
    KdfOp.apply kc (.suppPubInfo sp) = .next { kc with suppPubInfo := sp } ∧
    KdfOp.apply kc (.algorithm a) = .next { kc with algorithmId := .assigned a } ∧
    KdfOp.apply kc (.addSuppPrivInfo b) = .next { kc with suppPrivInfo := kc.suppPrivInfo ++ [b] } := by
  refine ⟨rfl, rfl, rfl, rfl, rfl, rfl, rfl, rfl, rfl, rfl, rfl, rfl, rfl, rfl, rfl, rfl, rfl, rfl, rfl, rfl, rfl, rfl, rfl, rfl, rfl, rfl, rfl, rfl, rfl, rfl, rfl⟩

/-- non-vacuity: adding the same key operation twice leaves one entry; a smaller one goes in front. -/
example : (runOps KeyOp.apply [.addKeyOp 2, .addKeyOp 1, .addKeyOp 2] newOkpKey 0).1 =
    .next { newOkpKey with keyOps := [.assigned 1, .assigned 2] } := by
  rfl

/-- non-vacuity: iv then partial_iv leaves only the partial IV; value(7) panics. -/
example : (runOps HeaderOp.apply [.iv [1], .partialIv [2]] Header.default 0).1 = .next (.mk none [] none [] [] [2] [] []) := rfl
example : ∃ s, HeaderOp.apply Header.default (.value 7 .null) = .panic s := (header_apply _ _).2 (by simp [headerEffect])

#print axioms header_value_guard
#print axioms header_apply
#print axioms iv_exclusive_step
#print axioms iv_exclusive
#print axioms iv_exclusive_from_new
#print axioms header_setter_overrides
#print axioms header_setters_commute
#print axioms sign1_setter_frame
#print axioms protected_discards_original
#print axioms protected_discards_original_all
#print axioms adders_append
#print axioms key_param_guard
#print axioms key_param
#print axioms claim_guard
#print axioms claims_guards
#print axioms constructors
#print axioms key_types_named
#print axioms runOps_inv
#print axioms runOps_stops
#print axioms header_rest_clean
#print axioms key_add_op
#print axioms key_clean
#print axioms constructors_clean
#print axioms claims_clean
#print axioms setters_frame

end Coset.Props.C19
