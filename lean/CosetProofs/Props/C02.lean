/-
  C02 — protected-header bytes are kept and reused bit-for-bit, never re-encoded.
-/
import CosetProofs.Shapes
import CosetProofs.Props.C03
import CosetProofs.Props.C04
import CosetProofs.Props.C05
import CosetProofs.Cbor.Encodings
namespace Coset.Props.C02
open Coset Coset.Cbor Coset.Spec

/-- decode retains: whatever `from_cbor_bstr` accepts, it stores exactly the content of the wire byte string —
    zero-length string, wrapped empty map, non-minimal widths, indefinite lengths, unsorted keys, unknown parameters alike. -/
theorem decode_retains (fuel d : Nat) (x : Value) (p : ProtectedHeader) (h : ProtectedHeader.fromBstr fuel d x = .ok p) :
    ∃ data, x = .bytes data ∧ p.originalData = some data := by
  cases fuel with
  | zero => simp [ProtectedHeader.fromBstr] at h
  | succ f =>
    obtain ⟨data, hx, hc⟩ := (protected_ok_iff f d x p).mp h
    refine ⟨data, hx, ?_⟩
    rcases hc with ⟨rfl, rfl⟩ | ⟨_, v, hh, _, _, rfl⟩ <;> rfl

/-- encode reuses: stored bytes are written verbatim (the serializer is not involved). -/
theorem encode_reuses (data : Bytes) (h : Header) : ProtectedHeader.cborBstr (.mk (some data) h) = .ok (.bytes data) := cborBstr_stored data h

/-- decode then encode: the protected slot of the output is the protected slot of the input (body position of every message type,
    via the two-header prefix they all share). -/
theorem slot_roundtrip (x0 : Value) (p : ProtectedHeader) (u : Header) (hp : phFromBstr x0 = .ok p) (vs : List Value)
    (hs : headerSlots p u = .ok vs) : vs.head? = some x0 := by
  obtain ⟨data, hx, ho⟩ := decode_retains _ _ x0 p hp
  rw [headerSlots, cborBstr_of_orig p data ho] at hs
  cases hu : Header.toValue u with
  | ok w => rw [hu] at hs; cases hs; rw [hx]; rfl
  | _ => rw [hu] at hs; cases hs

theorem sign1_slot_roundtrip (v : Value) (m : CoseSign1) (x : Value) (hd : CoseSign1.fromValue v = .ok m) (he : m.toValue = .ok x) :
    ∃ a b, v = .array a ∧ x = .array b ∧ b.head? = a.head? := by
  obtain ⟨x0, x1, x2, rfl, h0, _, _⟩ := (sign1_ok_iff v m).mp hd
  rw [CoseSign1.toValue] at he
  cases hs : headerSlots m.protected_ m.unprotected with
  | ok vs => rw [hs] at he; cases he; exact ⟨_, _, rfl, rfl, by rw [List.head?_append, slot_roundtrip x0 _ _ h0 _ hs]; rfl⟩
  | _ => rw [hs] at he; cases he

/-- counter signatures, at any depth and inside protected or unprotected headers, retain theirs (one decoder serves all positions). -/
theorem counter_signatures_retain (fuel d : Nat) (v : Value) (s : CoseSignature) (h : CoseSignature.fromValue fuel d v = .ok s) :
    ∃ data, s.protected_.originalData = some data := by
  cases fuel with
  | zero => simp [CoseSignature.fromValue] at h
  | succ f =>
    obtain ⟨x0, x1, _, hp, _⟩ := (signature_ok_iff f d v s).mp h
    obtain ⟨data, _, ho⟩ := decode_retains _ _ x0 _ hp
    exact ⟨data, ho⟩

/-- every signer of a decoded COSE_Sign retains its own protected bytes. -/
theorem signers_retain (sigs : List Value) (ss : List CoseSignature)
    (h : mapRes (fun s => (sigFromValue s).mapErr .unexpectedItem) sigs = .ok ss) :
    ∀ s ∈ ss, ∃ data, s.protected_.originalData = some data :=
  mapRes_forall_mem _ _ (fun v s hv => counter_signatures_retain _ _ v s (Res.mapErr_eq_ok.mp hv)) sigs ss h

/-- KDF supplementary public info retains its protected bytes. -/
theorem supp_pub_info_retains (v : Value) (s : SuppPubInfo) (h : SuppPubInfo.fromValue v = .ok s) :
    ∃ data, s.protected_.originalData = some data := by
  obtain ⟨x1, _, hp, _⟩ := (supp_ok_iff v s).mp h
  obtain ⟨data, _, ho⟩ := decode_retains _ _ x1 _ hp; exact ⟨data, ho⟩

/-- the structures carry the stored bytes, not a re-encoding of the parsed header — for whatever header was parsed from them. -/
theorem structures_use_stored (data aad payload : Bytes) (h : Header) :
    sigStructureData .coseSign1 (.mk (some data) h) none aad payload = .ok (specStruct ctxSignature1 [data, aad, payload]) ∧
    macStructureData .coseMac0 (.mk (some data) h) aad payload = .ok (specStruct ctxMAC0 [data, aad, payload]) ∧
    encStructureData .coseEncrypt0 (.mk (some data) h) aad = .ok (specStruct ctxEncrypt0 [data, aad]) := by
  refine ⟨?_, ?_, ?_⟩
  · simpa [C03.contexts.2.1] using (C03.sig_structure .coseSign1 _ aad payload data (cborBstr_stored data h)).1
  · simpa [C04.contexts.2] using C04.mac_structure .coseMac0 _ aad payload data (cborBstr_stored data h)
  · simpa [C05.contexts.2.1] using C05.enc_structure .coseEncrypt0 _ aad data (cborBstr_stored data h)

/-- the signer's slot of a COSE_Sign structure is the *signer's* stored bytes. -/
theorem signer_slot_uses_stored (m : CoseSign) (b s aad : Bytes) (hb : Header) (hs : Header) (u : Header) (sg : Bytes)
    (hm : m.protected_ = .mk (some b) hb) :
    m.tbsData aad (.mk (.mk (some s) hs) u sg) = .ok (specStruct ctxSignature [b, s, aad, m.payload.getD []]) := by
  apply C03.sign_tbs
  · rw [hm]; exact cborBstr_stored b hb
  · exact cborBstr_stored s hs

/-- the parsed view is the same for every encoding of the same header content (it is a function of the parsed value);
    only the retained bytes differ. -/
theorem view_encoding_independent (fuel d : Nat) (d1 d2 : Bytes) (v : Value) (p1 p2 : ProtectedHeader) (h1 : d1 ≠ []) (h2 : d2 ≠ [])
    (r1 : readToValue d1 = .ok v) (r2 : readToValue d2 = .ok v)
    (e1 : ProtectedHeader.fromBstr (fuel + 1) d (.bytes d1) = .ok p1) (e2 : ProtectedHeader.fromBstr (fuel + 1) d (.bytes d2) = .ok p2) :
    p1.header = p2.header ∧ p1.originalData = some d1 ∧ p2.originalData = some d2 := by
  rw [protected_eq] at e1 e2
  simp only [List.isEmpty_iff, h1, h2, if_false, r1, r2, Res.bind_ok] at e1 e2
  -- both are `Header.fromValue fuel d v` with their own bytes attached
  cases hv : Header.fromValue fuel d v with
  | ok h => rw [hv] at e1 e2; cases e1; cases e2; exact ⟨rfl, rfl, rfl⟩
  | _ => rw [hv] at e1; cases e1

/-- "whatever its encoding": for any two well-formed encodings `d1`, `d2` of the same header content (non-minimal integer widths,
    indefinite lengths, any chunking — `CosetSpec.Encodings`), the two protected headers have the same parsed view and each keeps
    exactly its own bytes. -/
theorem view_any_encoding (v : Value) (d1 d2 : Bytes) (h1 : Spec.Encodes v d1) (h2 : Spec.Encodes v d2)
    (hd : Cbor.depthOf v ≤ Cbor.recursionLimit) (p1 p2 : ProtectedHeader)
    (e1 : phFromBstr (.bytes d1) = .ok p1) (e2 : phFromBstr (.bytes d2) = .ok p2) :
    p1.header = p2.header ∧ p1.originalData = some d1 ∧ p2.originalData = some d2 := by
  have n1 : d1 ≠ [] := by obtain ⟨e, _, _, rfl⟩ := h1; exact e.bytes_ne_nil
  have n2 : d2 ≠ [] := by obtain ⟨e, _, _, rfl⟩ := h2; exact e.bytes_ne_nil
  -- `phFromBstr` runs `ProtectedHeader.fromBstr` at fuel `topFuel = (3 * maxNest + 2) + 1`
  exact view_encoding_independent (3 * maxNest + 2) maxNest d1 d2 v p1 p2 n1 n2 (readToValue_of_encodes v d1 h1 hd)
    (readToValue_of_encodes v d2 h2 hd) e1 e2

/-- non-vacuity: the zero-length string and the wrapped empty map are both accepted. -/
example : (phFromBstr (.bytes [])).isOk = true ∧ (phFromBstr (.bytes [0xa0])).isOk = true := by decide +kernel

/-- non-vacuity: a non-canonical protected header (`a2 04 41 01 01 26`: keys unsorted) at the body of a COSE_Sign1 is accepted. -/
example : (fromSlice CoseSign1.fromValue [0x84, 0x46, 0xa2, 0x04, 0x41, 0x01, 0x01, 0x26, 0xa0, 0xf6, 0x40]).isOk = true := by decide +kernel

#print axioms decode_retains
#print axioms encode_reuses
#print axioms slot_roundtrip
#print axioms sign1_slot_roundtrip
#print axioms signers_retain
#print axioms counter_signatures_retain
#print axioms supp_pub_info_retains
#print axioms structures_use_stored
#print axioms signer_slot_uses_stored
#print axioms view_encoding_independent
#print axioms view_any_encoding

end Coset.Props.C02
