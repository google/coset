/-
  C01 — untrusted bytes never crash decoding or the processing that follows it.
  Every panic site of the model — Vec::remove, indexing, unwrap/expect, assert!, unreachable!, len-4 — is dominated by its guard; the
  recursion through counter signatures and protected headers is bounded by the nesting budget whatever the input (fuel independence).
  Machine stack bytes per activation, allocator behaviour and wall-clock time are not modelled: they are observed by the
  child-process runs of the check.
-/
import CosetProofs.Safe
import CosetProofs.Props.C02
namespace Coset.Props.C01
open Coset

/-- every byte-level decoding entry point (`from_slice`) of every type: value or error, never a panic. -/
theorem decode_no_panic (bs : Bytes) :
    NP (fromSlice hdrFromValue bs) ∧ NP (fromSlice ProtectedHeader.fromValue bs) ∧ NP (fromSlice sigFromValue bs) ∧
    NP (fromSlice CoseSign.fromValue bs) ∧ NP (fromSlice CoseSign1.fromValue bs) ∧ NP (fromSlice rcpFromValue bs) ∧
    NP (fromSlice CoseEncrypt.fromValue bs) ∧ NP (fromSlice CoseEncrypt0.fromValue bs) ∧ NP (fromSlice CoseMac.fromValue bs) ∧
    NP (fromSlice CoseMac0.fromValue bs) ∧ NP (fromSlice CoseKey.fromValue bs) ∧ NP (fromSlice CoseKeySet.fromValue bs) ∧
    NP (fromSlice ClaimsSet.fromValue bs) ∧ NP (fromSlice PartyInfo.fromValue bs) ∧ NP (fromSlice SuppPubInfo.fromValue bs) ∧
    NP (fromSlice CoseKdfContext.fromValue bs) ∧ NP (fromSlice Label.fromValue bs) :=
  ⟨(fromSlice_safe hdrFromValue_safe bs).np, (fromSlice_safe protectedHeader_safe bs).np, (fromSlice_safe sigFromValue_safe bs).np,
    (fromSlice_safe sign_safe bs).np, (fromSlice_safe sign1_safe bs).np, (fromSlice_safe rcpFromValue_safe bs).np,
    (fromSlice_safe encrypt_safe bs).np, (fromSlice_safe encrypt0_safe bs).np, (fromSlice_safe mac_safe bs).np,
    (fromSlice_safe mac0_safe bs).np, (fromSlice_safe key_safe bs).np, (fromSlice_safe keyset_safe bs).np,
    (fromSlice_safe claims_safe bs).np, (fromSlice_safe party_safe bs).np, (fromSlice_safe supp_safe bs).np,
    (fromSlice_safe kdf_safe bs).np, (fromSlice_safe label_safe bs).np⟩

/-- the tagged entry points of the six message types. -/
theorem decode_tagged_no_panic (bs : Bytes) :
    NP (fromTaggedSlice Gen.TAG_CoseSign CoseSign.fromValue bs) ∧ NP (fromTaggedSlice Gen.TAG_CoseSign1 CoseSign1.fromValue bs) ∧
    NP (fromTaggedSlice Gen.TAG_CoseEncrypt CoseEncrypt.fromValue bs) ∧ NP (fromTaggedSlice Gen.TAG_CoseEncrypt0 CoseEncrypt0.fromValue bs) ∧
    NP (fromTaggedSlice Gen.TAG_CoseMac CoseMac.fromValue bs) ∧ NP (fromTaggedSlice Gen.TAG_CoseMac0 CoseMac0.fromValue bs) :=
  ⟨(fromTaggedSlice_safe _ sign_safe bs).np, (fromTaggedSlice_safe _ sign1_safe bs).np, (fromTaggedSlice_safe _ encrypt_safe bs).np,
   (fromTaggedSlice_safe _ encrypt0_safe bs).np, (fromTaggedSlice_safe _ mac_safe bs).np, (fromTaggedSlice_safe _ mac0_safe bs).np⟩

/-- the bstr-wrapped protected header entry point. -/
theorem protected_bstr_no_panic (v : Value) : NP (phFromBstr v) := (phFromBstr_safe v).np

/-- the CBOR parser itself: value, error or (model-only) out of fuel — it has no panic outcome at all. -/
theorem parser_no_panic (bs : Bytes) : NP (readToValue bs) := (readToValue_safe bs).np

/-- termination without a hidden time-out: the parser never answers "out of fuel" with the fuel its entry point supplies
    (the fuel argument exists for Lean's termination checker only). -/
theorem parser_never_out_of_fuel (bs : Bytes) : readToValue bs ≠ .err .outOfFuel := readToValue_no_oof bs

/-- memory proportional to the input, logical core: the item the parser returns has at most as many nodes plus string bytes as the
    input has bytes (one input byte is consumed per node and per string byte; nothing is allocated from a declared length). -/
theorem parsed_size_le_input (bs : Bytes) (v : Value) (h : readToValue bs = .ok v) : v.size ≤ bs.length := readToValue_size bs v h

/-- the same for any prefix parse. -/
theorem parse_consumes (fuel d : Nat) (bs : Bytes) (v : Value) (r : Bytes) (h : Cbor.parse fuel d bs = .ok (v, r)) :
    v.size + r.length ≤ bs.length := Cbor.parse_weight fuel d bs v r h

/-- no byte-level entry point of any type ever reports the model-only outcome "out of fuel":
    the parser's fuel, the header-family fuel (3·budget + 3) and the recipients' fuel (size of the value + 1) always suffice. -/
theorem api_never_out_of_fuel (bs : Bytes) :
    fromSlice hdrFromValue bs ≠ .err .outOfFuel ∧ fromSlice sigFromValue bs ≠ .err .outOfFuel ∧
    fromSlice CoseSign.fromValue bs ≠ .err .outOfFuel ∧ fromSlice CoseSign1.fromValue bs ≠ .err .outOfFuel ∧
    fromSlice rcpFromValue bs ≠ .err .outOfFuel ∧ fromSlice CoseEncrypt.fromValue bs ≠ .err .outOfFuel ∧
    fromSlice CoseEncrypt0.fromValue bs ≠ .err .outOfFuel ∧ fromSlice CoseMac.fromValue bs ≠ .err .outOfFuel ∧
    fromSlice CoseMac0.fromValue bs ≠ .err .outOfFuel ∧ fromSlice CoseKey.fromValue bs ≠ .err .outOfFuel ∧
    fromSlice CoseKeySet.fromValue bs ≠ .err .outOfFuel ∧ fromSlice ClaimsSet.fromValue bs ≠ .err .outOfFuel ∧
    fromSlice PartyInfo.fromValue bs ≠ .err .outOfFuel ∧ fromSlice SuppPubInfo.fromValue bs ≠ .err .outOfFuel ∧
    fromSlice CoseKdfContext.fromValue bs ≠ .err .outOfFuel ∧ fromSlice Label.fromValue bs ≠ .err .outOfFuel :=
  ⟨(fromSlice_safe hdrFromValue_safe bs).noOof, (fromSlice_safe sigFromValue_safe bs).noOof, (fromSlice_safe sign_safe bs).noOof,
   (fromSlice_safe sign1_safe bs).noOof, (fromSlice_safe rcpFromValue_safe bs).noOof, (fromSlice_safe encrypt_safe bs).noOof,
   (fromSlice_safe encrypt0_safe bs).noOof, (fromSlice_safe mac_safe bs).noOof, (fromSlice_safe mac0_safe bs).noOof,
   (fromSlice_safe key_safe bs).noOof, (fromSlice_safe keyset_safe bs).noOof, (fromSlice_safe claims_safe bs).noOof,
   (fromSlice_safe party_safe bs).noOof, (fromSlice_safe supp_safe bs).noOof, (fromSlice_safe kdf_safe bs).noOof,
   (fromSlice_safe label_safe bs).noOof⟩

theorem tagged_api_never_out_of_fuel (bs : Bytes) :
    fromTaggedSlice Gen.TAG_CoseSign CoseSign.fromValue bs ≠ .err .outOfFuel ∧ fromTaggedSlice Gen.TAG_CoseSign1 CoseSign1.fromValue bs ≠ .err .outOfFuel ∧
    fromTaggedSlice Gen.TAG_CoseEncrypt CoseEncrypt.fromValue bs ≠ .err .outOfFuel ∧ fromTaggedSlice Gen.TAG_CoseEncrypt0 CoseEncrypt0.fromValue bs ≠ .err .outOfFuel ∧
    fromTaggedSlice Gen.TAG_CoseMac CoseMac.fromValue bs ≠ .err .outOfFuel ∧ fromTaggedSlice Gen.TAG_CoseMac0 CoseMac0.fromValue bs ≠ .err .outOfFuel :=
  ⟨(fromTaggedSlice_safe _ sign_safe bs).noOof, (fromTaggedSlice_safe _ sign1_safe bs).noOof, (fromTaggedSlice_safe _ encrypt_safe bs).noOof,
   (fromTaggedSlice_safe _ encrypt0_safe bs).noOof, (fromTaggedSlice_safe _ mac_safe bs).noOof, (fromTaggedSlice_safe _ mac0_safe bs).noOof⟩

/-- … and the bstr-wrapped protected header entry point. -/
theorem protected_bstr_never_out_of_fuel (v : Value) : phFromBstr v ≠ .err .outOfFuel := (phFromBstr_safe v).noOof

/-- re-encoding: `to_cbor_value` of headers, protected headers and signatures never panics, for any in-memory value. -/
theorem encode_no_panic (h : Header) (s : CoseSignature) (p : ProtectedHeader) :
    NP (Header.toValue h) ∧ NP (CoseSignature.toValue s) ∧ NP (ProtectedHeader.cborBstr p) :=
  ⟨(Header.toValue_safe h).np, (CoseSignature.toValue_safe s).np, (ProtectedHeader.cborBstr_safe p).np⟩

/-- a decoded protected header always turns back into its byte string (stored bytes), so the structure functions' `expect` cannot fire. -/
theorem decoded_protected_serialises (v : Value) (p : ProtectedHeader) (h : phFromBstr v = .ok p) :
    ∃ d, ProtectedHeader.cborBstr p = .ok (.bytes d) := by
  obtain ⟨d, _, ho⟩ := C02.decode_retains _ _ v p h
  exact ⟨d, cborBstr_of_orig p d ho⟩

/-- follow-up on a decoded COSE_Sign1: to-be-signed bytes and verification never panic, for every AAD and verifier. -/
theorem sign1_followup_no_panic {ρ : Type} (v : Value) (m : CoseSign1) (hd : CoseSign1.fromValue v = .ok m) (aad : Bytes) (g : Bytes → Bytes → ρ) :
    (∃ t, m.tbsData aad = .ok t) ∧ (∃ r, m.verifySignature aad g = .ok r) := by
  obtain ⟨x0, x1, x2, _, h0, _, _⟩ := (sign1_ok_iff v m).mp hd
  obtain ⟨d, hb⟩ := decoded_protected_serialises x0 _ h0
  have := C03.sign1_tbs m aad d hb
  exact ⟨⟨_, this⟩, ⟨_, C03.verify_passes m aad g _ this⟩⟩

/-- follow-up on a decoded COSE_Mac0 / COSE_Encrypt0 with the payload / ciphertext present where the helper needs it. -/
theorem mac0_followup_no_panic {ρ : Type} (v : Value) (m : CoseMac0) (hd : CoseMac0.fromValue v = .ok m) (aad pl : Bytes) (g : Bytes → Bytes → ρ)
    (hp : m.payload = some pl) : ∃ r, m.verifyTag aad g = .ok r := by
  obtain ⟨x0, x1, x2, _, h0, _, _⟩ := (mac0_ok_iff v m).mp hd
  obtain ⟨d, hb⟩ := decoded_protected_serialises x0 _ h0
  exact ⟨_, C04.verify_passes0 m aad g _ (C04.mac0_tbm m aad d pl hb hp)⟩

theorem encrypt0_followup_no_panic {ρ : Type} (v : Value) (m : CoseEncrypt0) (hd : CoseEncrypt0.fromValue v = .ok m) (aad ct : Bytes)
    (g : Bytes → Bytes → ρ) (hc : m.ciphertext = some ct) : ∃ r, m.decrypt aad g = .ok r := by
  obtain ⟨x0, x1, x2, _, h0, _, _⟩ := (encrypt0_ok_iff v m).mp hd
  obtain ⟨d, hb⟩ := decoded_protected_serialises x0 _ h0
  exact ⟨_, C05.encrypt0_decrypt m aad d ct g hb hc⟩

/-- follow-up on a decoded COSE_Sign, for every in-range signer index. -/
theorem sign_followup_no_panic {ρ : Type} (v : Value) (m : CoseSign) (hd : CoseSign.fromValue v = .ok m) (aad : Bytes) (which : Nat)
    (hw : which < m.signatures.length) (g : Bytes → Bytes → ρ) : ∃ r, m.verifySignature which aad g = .ok r := by
  obtain ⟨x0, x1, x2, sigs, _, h0, _, _, hs⟩ := (sign_ok_iff v m).mp hd
  obtain ⟨d, hb⟩ := decoded_protected_serialises x0 _ h0
  have hsig : m.signatures[which]? = some m.signatures[which] := List.getElem?_eq_getElem hw
  obtain ⟨sd, hsd⟩ := C02.signers_retain sigs m.signatures hs m.signatures[which] (List.getElem_mem hw)
  exact ⟨_, C03.verify_passes_sign m which aad g _ _ hsig (C03.sign_tbs m _ aad d sd hb (cborBstr_of_orig _ sd hsd))⟩

/-- the nesting of counter signatures / protected headers is bounded by the crate's budget, whatever the input:
    the decoders' results do not depend on the fuel once it exceeds 3·budget + 3 (no deeper activation is ever needed),
    and beyond the budget the input is refused with a decode error instead of recursing. -/
theorem depth_bounded (k : Nat) (v : Value) :
    Header.fromValue (topFuel + k) maxNest v = hdrFromValue v ∧ CoseSignature.fromValue (topFuel + k) maxNest v = sigFromValue v ∧
    ProtectedHeader.fromBstr (topFuel + k) maxNest v = phFromBstr v := by
  have ⟨hH, hP, hS⟩ := fuel_irrelevant maxNest
  have h : topFuel = 3 * maxNest + 3 := rfl
  exact ⟨congrFun (hH _ (by omega) _ (by omega)) v, congrFun (hS _ (by omega) _ (by omega)) v, congrFun (hP _ (by omega) _ (by omega)) v⟩

theorem budget : maxNest = 16 := by decide

/-- with the budget exhausted a counter signature is refused (decode error), not followed. -/
theorem budget_exhausted (sf : Value → Res CoseSignature) (a : List Value) (ha : a ≠ []) :
    counterSigArm 0 sf (.array a) = .err .decodeFailed := by
  cases a with
  | nil => exact absurd rfl ha
  | cons x xs => simp [counterSigArm, tryAsArray]

/-- a header whose counter signature carries `nestW n` as its protected header: `n` counter signatures nested through protected headers. -/
def nestW : Nat → Bytes
  | 0 => [0xa0]
  | n + 1 => [0xa1, 0x07, 0x83] ++ Cbor.encHead 2 (nestW n).length ++ nestW n ++ [0xa0, 0x40]
/-- non-vacuity: 16 nested counter signatures are accepted, 17 are refused; a COSE_Sign with two signers is decoded (the hypothesis of
    `sign_followup_no_panic`). -/
example : (fromSlice hdrFromValue (nestW 16)).isOk = true ∧ (fromSlice hdrFromValue (nestW 17)).errKind? = some .decodeFailed := by decide +kernel
example : (fromSlice CoseSign.fromValue [0x84, 0x40, 0xa0, 0xf6, 0x82, 0x83, 0x40, 0xa0, 0x40, 0x83, 0x43, 0xa1, 0x01, 0x26, 0xa0, 0x41, 0x01]).isOk = true := by
  decide +kernel

#print axioms decode_no_panic
#print axioms decode_tagged_no_panic
#print axioms protected_bstr_no_panic
#print axioms parser_no_panic
#print axioms parser_never_out_of_fuel
#print axioms parsed_size_le_input
#print axioms parse_consumes
#print axioms api_never_out_of_fuel
#print axioms tagged_api_never_out_of_fuel
#print axioms protected_bstr_never_out_of_fuel
#print axioms encode_no_panic
#print axioms decoded_protected_serialises
#print axioms sign1_followup_no_panic
#print axioms mac0_followup_no_panic
#print axioms encrypt0_followup_no_panic
#print axioms sign_followup_no_panic
#print axioms depth_bounded
#print axioms budget
#print axioms budget_exhausted

end Coset.Props.C01
