/- C13: ties to the source text.  Built and audited together with Props/C13.lean by check.py, but in a module of its own, so that a
   changed textual fact breaks the obligations of the properties that own it and not those of every module that imports their lemmas. -/
import CosetProofs.Ties.Serializable
import CosetProofs.Ties.Compare.Common
namespace Coset.Props.C13

/-- no type overrides a provided method of `CborSerializable` / `TaggedCborSerializable`. -/
theorem tie_serializable_impls : Coset.Gen.serializableImpls = Coset.Pinned.serializableImpls := Coset.Ties.serializable_impls
/-- the bodies of `from_slice`, `to_vec`, `from_tagged_slice`, `to_tagged_vec` and `read_to_value` are the ones the model transcribes. -/
theorem tie_default_bodies : Coset.Gen.defaultBodies = Coset.Pinned.defaultBodies := Coset.Ties.default_bodies

#print axioms tie_serializable_impls
#print axioms tie_default_bodies

/-! comparisons and integer literals of the modules this property is anchored in (properties.jsonl): none beyond the transcribed tree's -/
theorem tie_compare_common : Coset.Ties.compareCovered "common" Coset.Gen.decisionBudget Coset.Pinned.decisionBudget = true := Coset.Ties.compare_common

#print axioms tie_compare_common

end Coset.Props.C13
