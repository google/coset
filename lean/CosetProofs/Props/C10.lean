/-
  C10 — COSE_Key / COSE_KeySet: accepted iff well-formed, parameters map to fields.
-/
import CosetProofs.KeyFields
import CosetProofs.Shapes
import CosetProofs.Cbor.Encodings
namespace Coset.Props.C10
open Coset Coset.Spec

theorem setInsert_some {α : Type} (cmp : α → α → Res Ordering) (s : List α) (x : α) (s' : List α)
    (h : setInsert cmp s x = .ok (some s')) : s'.length = s.length + 1 ∧ ∀ y, y ∈ s' ↔ (y = x ∨ y ∈ s) :=
  ⟨(setInsert_perm h).length_eq, setInsert_mem h⟩

/-- `key_ops`: every element is a registered-integer or text operation, no operation repeats, and the field is their set. -/
theorem key_ops_set (a : List Value) : ∀ (s0 s : List RegLabel), keyOpsLoop a s0 = .ok s →
    ∃ ops, mapRes (RegLabel.fromValue Reg.keyOperation) a = .ok ops ∧ s.length = s0.length + a.length ∧
      ∀ y, y ∈ s ↔ (y ∈ ops ∨ y ∈ s0) := by
  induction a with
  | nil => intro s0 s h; cases h; exact ⟨[], rfl, by simp, by simp⟩
  | cons v vs ih =>
    intro s0 s h
    obtain ⟨op, s1, hv, hi, h⟩ := (keyOpsLoop_cons_ok ..).mp h
    obtain ⟨ops, ho, hl, hm⟩ := ih s1 s h
    obtain ⟨l1, m1⟩ := setInsert_some _ s0 op s1 hi
    refine ⟨op :: ops, (mapRes_cons_ok ..).mpr ⟨op, ops, hv, ho, rfl⟩, by simp [hl, l1]; omega, fun y => ?_⟩
    rw [hm, m1, List.mem_cons, or_left_comm, or_assoc]

/-- C10 (⇒): whatever `CoseKey::from_cbor_value` accepts is a map with pairwise distinct labels containing a key type that is not
    the reserved value, each common parameter present has its shape, and the result's fields are exactly the wire values;
    all other pairs are kept unchanged in wire order. -/
theorem accepted_is_wellformed (v : Value) (k : CoseKey) (hok : CoseKey.fromValue v = .ok k) :
    ∃ m ls, v = .map m ∧ keyLabels m = .ok ls ∧ ls.Nodup ∧ KeyOf keyOpsLoop (ls.zip (m.map (·.2))) CoseKey.default k ∧
      k.kty ≠ .assigned ktyReservedIdx ∧ (∃ w, lookupL (.int 1) (ls.zip (m.map (·.2))) = some w) := by
  obtain ⟨m, rfl, hl, hr⟩ := (key_ok_iff v k).mp hok
  obtain ⟨ls, hls, hnd0, hfold⟩ := (keyLoop_ok_iff m _ k).mp hl
  have ko := fold_keyOf _ _ _ (zip_nodup_of_mapRes hls hnd0) hfold
  refine ⟨m, ls, rfl, hls, hnd0, ko, hr, ?_⟩
  -- without a `kty` entry the key type would still be the default, the reserved one
  exact (field_cases ko.kty).elim (fun h => absurd h.2 hr) fun ⟨w, hw, _⟩ => ⟨w, hw⟩

/-- C10 (⇐): distinct labels, a key type present that is registered-and-not-reserved or text, every common parameter present in its shape
    (key operations: a non-empty array the set-building loop accepts, i.e. decodable and pairwise distinct) ⇒ accepted, in any wire order. -/
theorem wellformed_is_accepted (m : List (Value × Value)) (ls : List Label) (hk : keyLabels m = .ok ls) (hnd : ls.Nodup)
    (hall : ∀ p ∈ ls.zip (m.map (·.2)), KeyEntryOk p.1 p.2)
    (hkty : ∃ w t, (Label.int 1, w) ∈ ls.zip (m.map (·.2)) ∧ RegLabel.fromValue Reg.keyType w = .ok t ∧ t ≠ .assigned ktyReservedIdx) :
    ∃ k, CoseKey.fromValue (.map m) = .ok k := by
  have hnd' := zip_nodup_of_mapRes hk hnd
  obtain ⟨k, hf⟩ := keyFold_accepts (ls.zip (m.map (·.2))) CoseKey.default hnd' hall (fun _ => rfl)
  obtain ⟨w, t, hm, ht, hne⟩ := hkty
  obtain ⟨t', ht', hke⟩ := field_of_mem hnd' hm (fold_keyOf _ _ _ hnd' hf).kty
  cases ht.symm.trans ht'
  exact ⟨k, (key_ok_iff _ k).mpr ⟨m, rfl, (keyLoop_ok_iff m _ k).mpr ⟨ls, hk, hnd, hf⟩, hke ▸ hne⟩⟩

/-- C10 as an equivalence. -/
theorem accepted_iff (v : Value) :
    (∃ k, CoseKey.fromValue v = .ok k) ↔
      ∃ m ls, v = .map m ∧ keyLabels m = .ok ls ∧ ls.Nodup ∧ (∀ p ∈ ls.zip (m.map (·.2)), KeyEntryOk p.1 p.2) ∧
        ∃ w t, (Label.int 1, w) ∈ ls.zip (m.map (·.2)) ∧ RegLabel.fromValue Reg.keyType w = .ok t ∧ t ≠ .assigned ktyReservedIdx := by
  constructor
  · rintro ⟨k, hok⟩
    obtain ⟨m, ls, rfl, hk, hnd, ko, hres, ⟨w, hw⟩⟩ := accepted_is_wellformed v k hok
    have hnd' := zip_nodup_of_mapRes hk hnd
    refine ⟨m, ls, rfl, hk, hnd, ?_, ?_⟩
    · rintro ⟨l, x⟩ hp
      refine ⟨?_, ?_, ?_, ?_⟩
      · rintro rfl; obtain ⟨t, h1, _⟩ := field_of_mem hnd' hp ko.kty; exact ⟨t, h1⟩
      · rintro (rfl | rfl)
        · obtain ⟨b, h1, h2, _⟩ := field_of_mem hnd' hp ko.keyId; exact ⟨b, h1, h2⟩
        · obtain ⟨b, h1, h2, _⟩ := field_of_mem hnd' hp ko.baseIv; exact ⟨b, h1, h2⟩
      · rintro rfl; obtain ⟨a, h1, _⟩ := field_of_mem hnd' hp ko.alg; exact ⟨a, h1⟩
      · rintro rfl; obtain ⟨a, s, h1, h2, h3, _⟩ := field_of_mem hnd' hp ko.keyOps; exact ⟨a, s, h1, h2, h3⟩
    · have hmem := mem_of_find_fst hw
      obtain ⟨t, h1, h2⟩ := field_of_mem hnd' hmem ko.kty
      exact ⟨w, t, hmem, h1, h2 ▸ hres⟩
  · rintro ⟨m, ls, rfl, hk, hnd, hall, hkty⟩
    exact wellformed_is_accepted m ls hk hnd hall hkty

/-- a missing key type and a reserved key type (`1: 0`) are both rejected; a text key type is never confused with the default. -/
example : (CoseKey.fromValue (.map [])).isOk = false ∧ (CoseKey.fromValue (.map [(.int 1, .int 0)])).isOk = false ∧
    (CoseKey.fromValue (.map [(.int 1, .text [])])).isOk = true ∧ (CoseKey.fromValue (.map [(.int 1, .int 4)])).isOk = true := by decide +kernel

/-- COSE_KeySet: accepted iff an array all of whose elements are acceptable keys, yielding them in order. -/
theorem keyset_iff (v : Value) (ks : List CoseKey) :
    CoseKeySet.fromValue v = .ok ks ↔ ∃ a, v = .array a ∧ mapRes CoseKey.fromValue a = .ok ks :=
  tryAsArrayThenConvert_ok CoseKey.fromValue v ks

theorem keyset_elementwise (a : List Value) (ks : List CoseKey) (h : mapRes CoseKey.fromValue a = .ok ks) :
    ks.length = a.length ∧ ∀ i (hi : i < a.length) (hk : i < ks.length), CoseKey.fromValue a[i] = .ok ks[i] :=
  ⟨mapRes_length _ _ _ h, mapRes_getElem _ _ _ h⟩

/-- the outcome depends only on the CBOR data-model value. -/
theorem depends_only_on_value (b1 b2 : Bytes) (v : Value) (h1 : readToValue b1 = .ok v) (h2 : readToValue b2 = .ok v) :
    fromSlice CoseKey.fromValue b1 = fromSlice CoseKey.fromValue b2 := by simp [fromSlice, h1, h2]

/-- … "does not depend on the encoding", from the encodings themselves (keys and key sets). -/
theorem any_encoding (v : Value) (b1 b2 : Bytes) (h1 : Spec.Encodes v b1) (h2 : Spec.Encodes v b2) (hd : Cbor.depthOf v ≤ Cbor.recursionLimit) :
    fromSlice CoseKey.fromValue b1 = fromSlice CoseKey.fromValue b2 ∧ fromSlice CoseKeySet.fromValue b1 = fromSlice CoseKeySet.fromValue b2 :=
  ⟨fromSlice_encoding_independent _ v b1 b2 h1 h2 hd, fromSlice_encoding_independent _ v b1 b2 h1 h2 hd⟩

#print axioms setInsert_some
#print axioms key_ops_set
#print axioms accepted_is_wellformed
#print axioms wellformed_is_accepted
#print axioms accepted_iff
#print axioms keyset_iff
#print axioms keyset_elementwise
#print axioms depends_only_on_value
#print axioms any_encoding

end Coset.Props.C10
