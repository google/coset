/- C19: ties to the source text.  Built and audited together with Props/C19.lean by check.py, but in a module of its own, so that a
   changed textual fact breaks the obligations of the properties that own it and not those of every module that imports their lemmas. -/
import CosetProofs.Ties.Builders
import CosetProofs.Ties.Compare.Context
import CosetProofs.Ties.Compare.Cwt
import CosetProofs.Ties.Compare.Encrypt
import CosetProofs.Ties.Compare.Header
import CosetProofs.Ties.Compare.Key
import CosetProofs.Ties.Compare.Mac
import CosetProofs.Ties.Compare.Sign
import CosetProofs.Ties.Compare.Util
import CosetProofs.Ties.IanaTables
namespace Coset.Props.C19

/-- which builder macro generates which method of which builder. -/
theorem tie_builder_uses : Coset.Gen.builderUses = Coset.Pinned.builderUses := Coset.Ties.builder_uses
/-- the bodies of the builder macros. -/
theorem tie_builder_macros : Coset.Gen.builderMacros = Coset.Pinned.builderMacros := Coset.Ties.builder_macros
/-- the hand-written builder methods, guards included. -/
theorem tie_builder_methods : Coset.Gen.builderMethods = Coset.Pinned.builderMethods := Coset.Ties.builder_methods

#print axioms tie_builder_uses
#print axioms tie_builder_macros
#print axioms tie_builder_methods

/-! comparisons and integer literals of the modules this property is anchored in (properties.jsonl): none beyond the transcribed tree's -/
theorem tie_compare_context : Coset.Ties.compareCovered "context" Coset.Gen.decisionBudget Coset.Pinned.decisionBudget = true := Coset.Ties.compare_context
theorem tie_compare_cwt : Coset.Ties.compareCovered "cwt" Coset.Gen.decisionBudget Coset.Pinned.decisionBudget = true := Coset.Ties.compare_cwt
theorem tie_compare_encrypt : Coset.Ties.compareCovered "encrypt" Coset.Gen.decisionBudget Coset.Pinned.decisionBudget = true := Coset.Ties.compare_encrypt
theorem tie_compare_header : Coset.Ties.compareCovered "header" Coset.Gen.decisionBudget Coset.Pinned.decisionBudget = true := Coset.Ties.compare_header
theorem tie_compare_key : Coset.Ties.compareCovered "key" Coset.Gen.decisionBudget Coset.Pinned.decisionBudget = true := Coset.Ties.compare_key
theorem tie_compare_mac : Coset.Ties.compareCovered "mac" Coset.Gen.decisionBudget Coset.Pinned.decisionBudget = true := Coset.Ties.compare_mac
theorem tie_compare_sign : Coset.Ties.compareCovered "sign" Coset.Gen.decisionBudget Coset.Pinned.decisionBudget = true := Coset.Ties.compare_sign
theorem tie_compare_util : Coset.Ties.compareCovered "util" Coset.Gen.decisionBudget Coset.Pinned.decisionBudget = true := Coset.Ties.compare_util

#print axioms tie_compare_context
#print axioms tie_compare_cwt
#print axioms tie_compare_encrypt
#print axioms tie_compare_header
#print axioms tie_compare_key
#print axioms tie_compare_mac
#print axioms tie_compare_sign
#print axioms tie_compare_util

/-- the registry tables the streams of this property build values from (by name) are the IANA assignments. -/
theorem tie_iana_tables : Coset.Ties.IanaTablesOk := Coset.Ties.iana_tables

#print axioms tie_iana_tables

end Coset.Props.C19
