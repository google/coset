/-
  C16 — label ordering is a total order equal to CBOR's deterministic key ordering.  `Label::cmp` is the lawful comparison `Label.ord`
  (LabelOrd.lean); encoded items are ordered by major type, then by the argument of the head, then by what follows (Cbor/HeadOrder.lean),
  which for integers and text strings is what `Label.ord` compares.
-/
import CosetProofs.LabelOrd
import CosetProofs.Cbor.HeadOrder
namespace Coset.Props.C16
open Coset Coset.Cbor
open Std (TransCmp OrientedCmp LawfulEqCmp ReflCmp)

/-- the deterministic encoding of a label. -/
def encLabel (l : Label) : Bytes :=
  match l with
  | .int i => enc (.int i)
  | .text t => enc (.text t)

theorem toVec_eq (l : Label) : Label.toVec l = .ok (encLabel l) := by cases l <;> rfl

/-- length-first-then-bytewise comparison (RFC 7049 §3.9). -/
def lenLex (a b : Bytes) : Ordering := if a.length != b.length then compare a.length b.length else lexCmp a b

def I64 (i : Int) : Prop := i64Min ≤ i ∧ i ≤ i64Max
def ValidLabel : Label → Prop
  | .int i => I64 i
  | .text t => t.length < 2 ^ 64

/-- the length-first comparison of encodings is the one `Label::cmp` uses on text. -/
theorem lenLex_eq_textCmp : lenLex = textCmp := by
  funext a b
  simp only [lenLex, textCmp]
  by_cases h : a.length = b.length
  · simp [h, Ordering.then]
  · have : compare a.length b.length ≠ .eq := fun he => h (Nat.compare_eq_eq.mp he)
    simp only [bne_iff_ne, ne_eq, h, not_false_eq_true, if_true]
    revert this; cases compare a.length b.length <;> simp [Ordering.then]

instance : TransCmp lenLex := lenLex_eq_textCmp ▸ inferInstance
instance : LawfulEqCmp lenLex := lenLex_eq_textCmp ▸ inferInstance

theorem lenLex_swap (a b : Bytes) : lenLex b a = (lenLex a b).swap := OrientedCmp.eq_swap

theorem lenLex_lt_iff (a b : Bytes) : lenLex a b = .lt ↔ (a.length < b.length ∨ (a.length = b.length ∧ lexCmp a b = .lt)) := by
  rw [lenLex_eq_textCmp, textCmp, Ordering.then_eq_lt, Nat.compare_eq_lt, Nat.compare_eq_eq]

theorem lenLex_trans (a b c : Bytes) (h1 : lenLex a b = .lt) (h2 : lenLex b c = .lt) : lenLex a c = .lt := TransCmp.lt_trans h1 h2

theorem enc_natCast (n : Nat) : enc (.int n) = encHead 0 n := by
  simp only [enc, if_pos (Int.natCast_nonneg n), Int.toNat_natCast]
theorem enc_negSucc (n : Nat) : enc (.int (Int.negSucc n)) = encHead 1 n := by
  simp only [enc, if_neg (Int.not_le.mpr (Int.negSucc_lt_zero n))]; congr 1; omega
theorem enc_int_head (i : Int) : ∃ mj n, mj < 2 ∧ enc (.int i) = encHead mj n := by
  cases i with
  | ofNat n => exact ⟨0, n, by decide, enc_natCast n⟩
  | negSucc n => exact ⟨1, n, by decide, enc_negSucc n⟩

/-- on integers `Label::cmp` is the order of the heads: major type, then argument. -/
theorem lex_int (i1 i2 : Int) (h1 : I64 i1) (h2 : I64 i2) : lexCmp (enc (.int i1)) (enc (.int i2)) = intOrd i1 i2 := by
  have arg : ∀ {mj n m : Nat}, mj < 8 → n < 2 ^ 64 → m < 2 ^ 64 → lexCmp (encHead mj n) (encHead mj m) = compare n m := by
    intro mj n m hmj hn hm
    simpa [lexCmp] using lexCmp_encHead_arg mj n m hmj hn hm [] []
  have nonneg : ∀ n : Nat, ¬ (n : Int) < 0 := fun n => Int.not_lt.mpr (Int.natCast_nonneg n)
  simp only [I64, i64Min, i64Max] at h1 h2
  unfold intOrd
  have sign : ∀ i : Int, ∃ n : Nat, i = n ∨ i = Int.negSucc n := fun i => by
    cases i with
    | ofNat n => exact ⟨n, .inl rfl⟩
    | negSucc n => exact ⟨n, .inr rfl⟩
  obtain ⟨n, rfl | rfl⟩ := sign i1 <;> obtain ⟨m, rfl | rfl⟩ := sign i2
  · rw [enc_natCast, enc_natCast, arg (by decide) (by omega) (by omega), if_neg (nonneg n), if_neg (nonneg m)]
    exact compareOfLessAndEq_congr (by omega) (by omega)
  · rw [enc_natCast, enc_negSucc, if_neg (nonneg n), if_pos (Int.negSucc_lt_zero m)]
    simpa using lexCmp_encHead_major 0 1 n m (by decide) (by decide) [] []
  · rw [enc_negSucc, enc_natCast, if_pos (Int.negSucc_lt_zero n), if_neg (nonneg m), OrientedCmp.eq_swap (cmp := lexCmp)]
    simpa using lexCmp_encHead_major 0 1 m n (by decide) (by decide) [] []
  · rw [enc_negSucc, enc_negSucc, arg (by decide) (by omega) (by omega), if_pos (Int.negSucc_lt_zero n), if_pos (Int.negSucc_lt_zero m)]
    exact compareOfLessAndEq_congr (by omega) (by omega)

/-- C16: `Label::cmp` is bytewise lexicographic comparison of the deterministic encodings (and never panics). -/
theorem cmp_is_lex (a b : Label) (ha : ValidLabel a) (hb : ValidLabel b) :
    Label.cmp a b = .ok (lexCmp (encLabel a) (encLabel b)) := by
  have int_text : ∀ (i : Int) (t : Bytes), lexCmp (enc (.int i)) (enc (.text t)) = .lt := by
    intro i t
    obtain ⟨mj, n, hmj, e⟩ := enc_int_head i
    rw [e, enc]
    simpa using lexCmp_encHead_major mj 3 n t.length (by omega) (by decide) [] t
  rw [Label.cmp_ord]
  cases a <;> cases b <;> simp only [Label.ord, encLabel]
  · rw [lex_int _ _ ha hb]
  · rw [int_text]
  · rw [OrientedCmp.eq_swap (cmp := lexCmp), int_text]; rfl
  · exact congrArg _ (lexCmp_encHead_arg 3 _ _ (by decide) ha hb _ _).symm

/-- the deterministic encoding determines the label (injectivity), so `cmp = Equal` exactly for equal labels. -/
theorem encLabel_injective (a b : Label) (ha : ValidLabel a) (hb : ValidLabel b) (h : encLabel a = encLabel b) : a = b := by
  have e := (Label.cmp_ord a b).symm.trans (cmp_is_lex a b ha hb)
  rw [h, ReflCmp.compare_self (cmp := lexCmp)] at e
  exact LawfulEqCmp.eq_of_compare (Res.ok.inj e)

-- `Label.ord` is lawful on all labels: the proofs of the next three do not use their range hypotheses, and `cmp_trichotomy` only hands
-- them to `cmp_eq_iff`

/-- C16 (total order consistent with equality): reflexive-equal, equal only when identical, antisymmetric, transitive. -/
theorem cmp_eq_iff (a b : Label) (ha : ValidLabel a) (hb : ValidLabel b) : Label.cmp a b = .ok .eq ↔ a = b :=
  Label.cmp_eq_iff a b

theorem cmp_swap (a b : Label) (ha : ValidLabel a) (hb : ValidLabel b) (o : Ordering) (h : Label.cmp a b = .ok o) :
    Label.cmp b a = .ok o.swap := by
  rw [Label.cmp_ord] at h ⊢; rw [OrientedCmp.eq_swap (cmp := Label.ord), Res.ok.inj h]

theorem cmp_trans (a b c : Label) (ha : ValidLabel a) (hb : ValidLabel b) (hc : ValidLabel c)
    (h1 : Label.cmp a b = .ok .lt) (h2 : Label.cmp b c = .ok .lt) : Label.cmp a c = .ok .lt := by
  rw [Label.cmp_ord] at *; rw [TransCmp.lt_trans (Res.ok.inj h1) (Res.ok.inj h2)]

theorem cmp_trichotomy (a b : Label) (ha : ValidLabel a) (hb : ValidLabel b) :
    Label.cmp a b = .ok .lt ∨ a = b ∨ Label.cmp b a = .ok .lt := by
  rw [← cmp_eq_iff a b ha hb, Label.cmp_ord, Label.cmp_ord]
  simpa using lt_or_eq_or_gt (cmp := Label.ord) a b

/-! ### `cmp_canonical` is a lawful strict total order too: swap and transitivity on all labels, equality and trichotomy on those whose
    encoding determines them (`encLabel_injective`) -/

/-- C16 (canonical order): `cmp_canonical` is length-first-then-bytewise comparison of the encodings, and never panics. -/
theorem cmp_canonical_is_lenlex (a b : Label) : Label.cmpCanonical a b = .ok (lenLex (encLabel a) (encLabel b)) := by
  simp only [Label.cmpCanonical, toVec_eq, lenLex]
  split <;> rfl

theorem cmp_canonical_eq_iff (a b : Label) (ha : ValidLabel a) (hb : ValidLabel b) :
    Label.cmpCanonical a b = .ok .eq ↔ a = b := by
  rw [cmp_canonical_is_lenlex, Res.ok.injEq, LawfulEqCmp.compare_eq_iff_eq]
  exact ⟨encLabel_injective a b ha hb, congrArg _⟩

theorem cmp_canonical_swap (a b : Label) (o : Ordering) (h : Label.cmpCanonical a b = .ok o) :
    Label.cmpCanonical b a = .ok o.swap := by
  rw [cmp_canonical_is_lenlex] at h ⊢; rw [lenLex_swap, Res.ok.inj h]

theorem cmp_canonical_trans (a b c : Label)
    (h1 : Label.cmpCanonical a b = .ok .lt) (h2 : Label.cmpCanonical b c = .ok .lt) : Label.cmpCanonical a c = .ok .lt := by
  rw [cmp_canonical_is_lenlex] at *; rw [lenLex_trans _ _ _ (Res.ok.inj h1) (Res.ok.inj h2)]

theorem cmp_canonical_trichotomy (a b : Label) (ha : ValidLabel a) (hb : ValidLabel b) :
    Label.cmpCanonical a b = .ok .lt ∨ a = b ∨ Label.cmpCanonical b a = .ok .lt := by
  rw [← cmp_canonical_eq_iff a b ha hb, cmp_canonical_is_lenlex, cmp_canonical_is_lenlex]
  simpa using lt_or_eq_or_gt (cmp := lenLex) (encLabel a) (encLabel b)

def regEnc (R : Registry) : RegLabel → Label
  | .assigned k => .int (R.toI64 k)
  | .text t => .text t
def regPrivEnc (R : Registry) : RegLabelPriv → Label
  | .assigned k => .int (R.toI64 k)
  | .privateUse i => .int i
  | .text t => .text t

/-- comparison of registry labels is comparison of the labels they stand for. -/
theorem reg_cmp_eq (R : Registry) (a b : RegLabel) : RegLabel.cmp R a b = Label.cmp (regEnc R a) (regEnc R b) := by
  cases a <;> cases b <;> rfl
theorem regPriv_cmp_eq (R : Registry) (a b : RegLabelPriv) : RegLabelPriv.cmp R a b = Label.cmp (regPrivEnc R a) (regPrivEnc R b) := by
  cases a <;> cases b <;> rfl

theorem registered_cmp (R : Registry) (a b : RegLabel) (ha : ValidLabel (regEnc R a)) (hb : ValidLabel (regEnc R b)) :
    RegLabel.cmp R a b = .ok (lexCmp (encLabel (regEnc R a)) (encLabel (regEnc R b))) :=
  reg_cmp_eq R a b ▸ cmp_is_lex _ _ ha hb

theorem registered_private_cmp (R : Registry) (a b : RegLabelPriv) (ha : ValidLabel (regPrivEnc R a)) (hb : ValidLabel (regPrivEnc R b)) :
    RegLabelPriv.cmp R a b = .ok (lexCmp (encLabel (regPrivEnc R a)) (encLabel (regPrivEnc R b))) :=
  regPriv_cmp_eq R a b ▸ cmp_is_lex _ _ ha hb

/-- without the "as produced by decoding or the builders" side condition equality and comparison can disagree:
    `Assigned(RS1)` and `PrivateUse(-65535)` compare equal but are different values. -/
example : RegLabelPriv.cmp Reg.algorithm (.assigned Gen.idx_Algorithm_RS1) (.privateUse (-65535)) = .ok .eq ∧
    (RegLabelPriv.assigned Gen.idx_Algorithm_RS1 ≠ .privateUse (-65535)) := by decide

/-- non-vacuity: the boundary pairs of the 0.3.7 bug — 23 < 24 < 255 < 256, -24 < -25 in encoded order, ints before text. -/
example : Label.cmp (.int 23) (.int 24) = .ok .lt ∧ Label.cmp (.int 255) (.int 256) = .ok .lt ∧ Label.cmp (.int (-24)) (.int (-25)) = .ok .lt ∧
    Label.cmp (.int (-1)) (.int 1000000) = .ok .gt ∧ Label.cmp (.int 5) (.text []) = .ok .lt ∧
    Label.cmpCanonical (.int 256) (.int (-1)) = .ok .gt ∧ Label.cmp (.int 256) (.int (-1)) = .ok .lt := by decide

#print axioms cmp_is_lex
#print axioms encLabel_injective
#print axioms cmp_eq_iff
#print axioms cmp_swap
#print axioms cmp_trans
#print axioms cmp_canonical_is_lenlex
#print axioms cmp_canonical_eq_iff
#print axioms cmp_canonical_swap
#print axioms cmp_canonical_trans
#print axioms cmp_trichotomy
#print axioms cmp_canonical_trichotomy
#print axioms registered_cmp
#print axioms registered_private_cmp

end Coset.Props.C16
