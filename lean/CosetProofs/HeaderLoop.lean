/-
  Maps keyed by `Label` (headers, COSE_Key): `Label::cmp` says `Equal` of identical labels only, so the `seen` test of their loops is exact
  on every label (`setContains_label`).  The `for (l, value) in m` loop of `Header::from_cbor_value` is the generic map loop, its step
  being the dispatch followed by the check that IV and Partial IV are not both populated (`headerStep`); the loop of
  `CoseKey::from_cbor_value` likewise (`keyStep`).
-/
import CosetProofs.MapLoop
import CosetProofs.LabelOrd
namespace Coset

theorem setContains_label (seen : List Label) (l : Label) : setContains Label.cmp seen l = .ok (decide (l ∈ seen)) :=
  setContains_exact Label.cmp (fun _ => True) Label.cmp_ok (fun a b _ _ => Label.cmp_eq_iff a b) seen l (fun _ _ => trivial) trivial

/-- what the `genLoop_*` lemmas ask of a loop keyed by `Label`, with no condition on the labels. -/
theorem label_loop_hyps :
    (∀ (k : Value) (l : Label), Label.fromValue k = .ok l → True) ∧
    (∀ (seen : List Label) (l : Label), (∀ x ∈ seen, True) → True → setContains Label.cmp seen l = .ok (decide (l ∈ seen))) :=
  ⟨fun _ _ _ => trivial, fun seen l _ _ => setContains_label seen l⟩

def keyLabels (m : List (Value × Value)) : Res (List Label) := mapRes Label.fromValue (m.map (·.1))

def headerStep (d : Nat) (sf : Value → Res CoseSignature) (h : Header) (lv : Label × Value) : Res Header :=
  match headerDispatch d sf lv.1 lv.2 h with
  | .ok h' => if !h'.iv.isEmpty && !h'.partialIv.isEmpty then .err .unexpectedItem else .ok h'
  | .err e => .err e
  | .panic p => .panic p

set_option smartUnfolding false in -- the `match` of `headerStep` read as `>>=` (Res.lean)
theorem headerStep_ok (d : Nat) (sf : Value → Res CoseSignature) (h h1 : Header) (lv : Label × Value) :
    headerStep d sf h lv = .ok h1 ↔ headerDispatch d sf lv.1 lv.2 h = .ok h1 ∧ ¬ (h1.iv ≠ [] ∧ h1.partialIv ≠ []) := by
  have hb : ∀ h2 : Header, (!h2.iv.isEmpty && !h2.partialIv.isEmpty) = true ↔ h2.iv ≠ [] ∧ h2.partialIv ≠ [] := fun _ => by simp
  refine Res.bind_eq_ok.trans ⟨?_, fun ⟨hd, hn⟩ => ⟨h1, hd, if_neg (mt (hb h1).mp hn)⟩⟩
  rintro ⟨h2, hd, hi⟩
  by_cases hc : (!h2.iv.isEmpty && !h2.partialIv.isEmpty) = true
  · rw [if_pos hc] at hi; cases hi
  · rw [if_neg hc] at hi; cases hi; exact ⟨hd, mt (hb _).mpr hc⟩

theorem headerStep_of {d : Nat} {sf : Value → Res CoseSignature} {h h1 : Header} {l : Label} {v : Value}
    (hd : headerDispatch d sf l v h = .ok h1) (hiv : ¬ (h1.iv ≠ [] ∧ h1.partialIv ≠ [])) : headerStep d sf h (l, v) = .ok h1 :=
  (headerStep_ok d sf h h1 (l, v)).mpr ⟨hd, hiv⟩

/- `headerLoop` checks IV against Partial IV between dispatch and recursion; in `genLoop` that check is inside the step.  So the two are
   different nests of `match`es and are compared arm by arm, where `keyLoop_eq_gen` holds by unfolding. -/
theorem headerLoop_eq_gen (d : Nat) (sf : Value → Res CoseSignature) (m : List (Value × Value)) :
    ∀ (h : Header) (seen : List Label), headerLoop d sf m h seen = genLoop Label.fromValue Label.cmp (headerStep d sf) m h seen := by
  induction m with
  | nil => intro h seen; rfl
  | cons kv m ih =>
    intro h seen
    simp only [headerLoop, genLoop, headerStep, ← ih]
    cases Label.fromValue kv.1 with
    | ok l =>
      dsimp only
      cases setContains Label.cmp seen l with
      | ok b =>
        cases b with
        | true => rfl
        | false =>
          dsimp only
          cases headerDispatch d sf l kv.2 h with
          | ok h1 => dsimp only; split <;> rfl
          | _ => rfl
      | _ => rfl
    | _ => rfl

theorem headerLoop_ok_iff (d : Nat) (sf : Value → Res CoseSignature) (m : List (Value × Value)) (h h' : Header) :
    headerLoop d sf m h [] = .ok h' ↔
      ∃ ls, keyLabels m = .ok ls ∧ ls.Nodup ∧ foldRes (headerStep d sf) (ls.zip (m.map (·.2))) h = .ok h' := by
  rw [headerLoop_eq_gen]
  exact genLoop_ok_nil _ _ _ _ label_loop_hyps.1 label_loop_hyps.2 m h h'

theorem header_eq (fuel d : Nat) (v : Value) : Header.fromValue (fuel + 1) d v = match v with
    | .map m => headerLoop d (CoseSignature.fromValue fuel (d - 1)) m Header.default []
    | _ => typeError := by
  rw [Header.fromValue]; cases v <;> rfl

theorem header_ok_iff (fuel d : Nat) (v : Value) (h : Header) :
    Header.fromValue (fuel + 1) d v = .ok h ↔
      ∃ m, v = .map m ∧ headerLoop d (CoseSignature.fromValue fuel (d - 1)) m Header.default [] = .ok h := by
  rw [header_eq]
  constructor
  · intro hok
    split at hok
    · exact ⟨_, rfl, hok⟩
    · cases hok
  · rintro ⟨m, rfl, hl⟩; exact hl

def keyStep (k : CoseKey) (lv : Label × Value) : Res CoseKey := keyDispatch lv.1 lv.2 k

/- `keyLoop` is `genLoop` written out at `keyStep`: the same structural recursion.  With `smartUnfolding` off `rfl` compares the two
   recursions as compiled instead of getting stuck on the `match`es. -/
set_option smartUnfolding false in
theorem keyLoop_eq_gen (m : List (Value × Value)) :
    ∀ (k : CoseKey) (seen : List Label), keyLoop m k seen = genLoop Label.fromValue Label.cmp keyStep m k seen := fun _ _ => rfl

theorem keyLoop_ok_iff (m : List (Value × Value)) (k k' : CoseKey) :
    keyLoop m k [] = .ok k' ↔ ∃ ls, keyLabels m = .ok ls ∧ ls.Nodup ∧ foldRes keyStep (ls.zip (m.map (·.2))) k = .ok k' := by
  rw [keyLoop_eq_gen]
  exact genLoop_ok_nil _ _ _ _ label_loop_hyps.1 label_loop_hyps.2 m k k'

set_option smartUnfolding false in
theorem key_eq (v : Value) : CoseKey.fromValue v = match v with
    | .map m => keyLoop m CoseKey.default [] >>= fun k => if k.kty = .assigned ktyReservedIdx then .err .unexpectedItem else .ok k
    | _ => typeError := by
  cases v <;> rfl

/-- the reserved key type is that of `CoseKey::default()`: a map without `kty` ends with it and is refused. -/
theorem key_ok_iff (v : Value) (k : CoseKey) :
    CoseKey.fromValue v = .ok k ↔ ∃ m, v = .map m ∧ keyLoop m CoseKey.default [] = .ok k ∧ k.kty ≠ .assigned ktyReservedIdx := by
  rw [key_eq]; split
  · simp only [Res.bind_eq_ok, Value.map.injEq, exists_eq_left']
    constructor
    · rintro ⟨k1, hl, hk⟩
      by_cases hr : k1.kty = .assigned ktyReservedIdx
      · rw [if_pos hr] at hk; cases hk
      · rw [if_neg hr] at hk; cases hk; exact ⟨hl, hr⟩
    · rintro ⟨hl, hr⟩; exact ⟨k, hl, if_neg hr⟩
  · next hne => simp only [typeError, reduceCtorEq, false_iff]; rintro ⟨_, h, _⟩; exact hne _ h

end Coset
