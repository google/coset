/-
  The CWT claims-set loop: claim names are registry labels with a private range; the `seen` set is exact on decoded names.
-/
import CosetProofs.Props.C16
import CosetProofs.MapLoop
import CosetProofs.Roundtrip.Labels
namespace Coset
open Coset.Props.C16

/-- names as produced by decoding: a registered variant, or a private-use integer that is *not* registered (what the `seen` test needs of
    `GoodRegPriv`). -/
def GoodName (R : Registry) : RegLabelPriv → Prop
  | .assigned k => k < R.rows.length
  | .privateUse i => R.fromI64 i = none
  | .text _ => True

theorem GoodRegPriv.goodName {R : Registry} {l : RegLabelPriv} (h : GoodRegPriv R l) : GoodName R l := by
  cases l <;> first | exact h.1 | trivial

theorem regPriv_cmp_ok (R : Registry) (a b : RegLabelPriv) : ∃ o, RegLabelPriv.cmp R a b = .ok o :=
  regPriv_cmp_eq R a b ▸ Label.cmp_ok _ _

/-- decoded names stand for distinct labels: a registered integer determines its variant (registry values pairwise distinct),
    and a private-use integer is not registered. -/
theorem regPrivEnc_inj (R : Registry) (hnd : (R.rows.map (·.2)).Nodup) (a b : RegLabelPriv) (ha : GoodName R a) (hb : GoodName R b)
    (h : regPrivEnc R a = regPrivEnc R b) : a = b := by
  have ft := Coset.Props.C17.from_to R hnd
  have mixed : ∀ j i, j < R.rows.length → R.fromI64 i = none → R.toI64 j ≠ i := fun j i hj hi e => by
    rw [← e, ft j hj] at hi; cases hi
  cases a <;> cases b <;> simp only [regPrivEnc, Label.int.injEq, Label.text.injEq, reduceCtorEq] at h
  case assigned.assigned j k => have hk := ft k hb; rw [← h, ft j ha] at hk; rw [Option.some.inj hk]
  case assigned.privateUse j i => exact absurd h (mixed j i ha hb)
  case privateUse.assigned i k => exact absurd h.symm (mixed k i hb ha)
  case privateUse.privateUse i i' => rw [h]
  case text.text t t' => rw [h]

theorem regPriv_cmp_eq_iff (R : Registry) (hnd : (R.rows.map (·.2)).Nodup) (a b : RegLabelPriv) (ha : GoodName R a) (hb : GoodName R b) :
    RegLabelPriv.cmp R a b = .ok .eq ↔ a = b := by
  rw [regPriv_cmp_eq, Label.cmp_eq_iff]
  exact ⟨regPrivEnc_inj R hnd a b ha hb, fun h => h ▸ rfl⟩

def claimStep (c : ClaimsSet) (nv : RegLabelPriv × Value) : Res ClaimsSet := claimDispatch nv.1 nv.2 c

-- as for `keyLoop_eq_gen`
set_option smartUnfolding false in
theorem claimsLoop_eq_gen (m : List (Value × Value)) :
    ∀ (c : ClaimsSet) (seen : List RegLabelPriv),
      claimsLoop m c seen = genLoop (RegLabelPriv.fromValue Reg.cwtClaimName) (RegLabelPriv.cmp Reg.cwtClaimName) claimStep m c seen :=
  fun _ _ => rfl

theorem claims_loop_hyps :
    (∀ (k : Value) (l : RegLabelPriv), RegLabelPriv.fromValue Reg.cwtClaimName k = .ok l → GoodName Reg.cwtClaimName l) ∧
    (∀ (seen : List RegLabelPriv) (l : RegLabelPriv), (∀ x ∈ seen, GoodName Reg.cwtClaimName x) → GoodName Reg.cwtClaimName l →
      setContains (RegLabelPriv.cmp Reg.cwtClaimName) seen l = .ok (decide (l ∈ seen))) :=
  ⟨fun k l h => (RegLabelPriv.fromValue_good _ k l h).goodName,
    setContains_exact _ (GoodName _) (regPriv_cmp_ok _) (regPriv_cmp_eq_iff _ cwt_values_nodup)⟩

theorem claimsLoop_ok_iff (m : List (Value × Value)) (c c' : ClaimsSet) :
    claimsLoop m c [] = .ok c' ↔ ∃ ns, mapRes (RegLabelPriv.fromValue Reg.cwtClaimName) (m.map (·.1)) = .ok ns ∧ ns.Nodup ∧
      foldRes claimStep (ns.zip (m.map (·.2))) c = .ok c' := by
  rw [claimsLoop_eq_gen]
  exact genLoop_ok_nil _ _ _ _ claims_loop_hyps.1 claims_loop_hyps.2 m c c'

end Coset
