/-
  `headerDispatch` arm by arm — each arm is "decode the value, put the result in one field" (`headerDispatch_alg` …), and touches no other
  field (`headerDispatch_frame`).  From that, through `fold_lookup`, what the fold of the dispatch over pairwise distinct labels computes,
  field by field (`fold_headerOf`); and conversely, from the arm equations read right to left, that the fold over entries of the right shape
  succeeds in any order (`headerFold_accepts`).  In the arm equations `simp +decide only [headerDispatch, ↓reduceIte]` walks the `if` chain:
  `decide` settles each test on the label and `↓reduceIte` drops the arm not taken before it is visited.
-/
import CosetProofs.HeaderLoop
import CosetProofs.FieldFold
import CosetSpec.Header
namespace Coset
open Coset.Spec

theorem headerLabel_values : hALG = .int 1 ∧ hCRIT = .int 2 ∧ hCONTENT_TYPE = .int 3 ∧ hKID = .int 4 ∧ hIV = .int 5 ∧ hPARTIAL_IV = .int 6 ∧
    hCOUNTER_SIG = .int 7 := by decide

/-- `Header` is declared in a mutual block and its accessors are functions defined beside it: `simp` takes them off `Header.mk` by this. -/
@[simp] theorem hdr_acc (a c ct k i p cs r) :
    (Header.mk a c ct k i p cs r).alg = a ∧ (Header.mk a c ct k i p cs r).crit = c ∧ (Header.mk a c ct k i p cs r).contentType = ct ∧
    (Header.mk a c ct k i p cs r).keyId = k ∧ (Header.mk a c ct k i p cs r).iv = i ∧ (Header.mk a c ct k i p cs r).partialIv = p ∧
    (Header.mk a c ct k i p cs r).counterSignatures = cs ∧ (Header.mk a c ct k i p cs r).rest = r := ⟨rfl, rfl, rfl, rfl, rfl, rfl, rfl, rfl⟩

/-- the `crit` arm's reading of its value (written out in `headerDispatch`, not a function of the crate): a non-empty array of
    header-parameter labels. -/
def critOf : Value → Res (List RegLabel)
  | .array a => if a.isEmpty then .err .unexpectedItem else mapRes (RegLabel.fromValue Reg.headerParameter) a
  | _ => typeError

/-- likewise for the content type: a content-format label; a text one must look like a media type. -/
def contentTypeOf (v : Value) : Res RegLabel :=
  match RegLabel.fromValue Reg.coapContentFormat v with
  | .ok ct => if contentTypeOk ct then .ok ct else .err .unexpectedItem
  | r => r

theorem critOf_ok (v : Value) (ls : List RegLabel) :
    critOf v = .ok ls ↔ ∃ a, v = .array a ∧ a ≠ [] ∧ mapRes (RegLabel.fromValue Reg.headerParameter) a = .ok ls := by
  cases v with
  | array a => cases a <;> simp [critOf]
  | _ => simp [critOf, typeError]

theorem contentTypeOf_ok (v : Value) (ct : RegLabel) :
    contentTypeOf v = .ok ct ↔ RegLabel.fromValue Reg.coapContentFormat v = .ok ct ∧ contentTypeOk ct = true := by
  unfold contentTypeOf
  cases RegLabel.fromValue Reg.coapContentFormat v with
  | ok c =>
    cases hc : contentTypeOk c <;> simp only [hc, Bool.false_eq_true, if_false, if_true, reduceCtorEq, Res.ok.injEq, false_iff, not_and]
    · rintro rfl; simp [hc]
    · exact ⟨fun e => ⟨e, e ▸ hc⟩, fun e => e.1⟩
  | _ => simp

theorem counterSigArm_cons {d : Nat} (sf : Value → Res CoseSignature) (hd : d ≠ 0) (first : Value) (tl : List Value) :
    counterSigArm d sf (.array (first :: tl)) = match first with
      | .bytes _ => (sf (.array (first :: tl))).map fun s => [s]
      | .array _ => mapRes sf (first :: tl)
      | _ => typeError := by
  simp only [counterSigArm, tryAsArray, hd, vindex, List.isEmpty_cons, List.getElem?_cons_zero, Bool.false_eq_true, if_false]
  cases first <;> try rfl
  cases sf _ <;> rfl

theorem counterSigArm_ok_iff (d : Nat) (sf : Value → Res CoseSignature) (v : Value) (ss : List CoseSignature) :
    counterSigArm d sf v = .ok ss ↔ d ≠ 0 ∧
      ((∃ b tl s, v = .array (.bytes b :: tl) ∧ sf v = .ok s ∧ ss = [s]) ∨
       (∃ a0 tl, v = .array (.array a0 :: tl) ∧ mapRes sf (.array a0 :: tl) = .ok ss)) := by
  constructor
  · intro h
    cases v with
    | array a =>
      cases a with
      | nil => simp [counterSigArm, tryAsArray] at h
      | cons first tl =>
        have hd : d ≠ 0 := fun hd => by simp [counterSigArm, tryAsArray, hd] at h
        rw [counterSigArm_cons sf hd] at h
        refine ⟨hd, ?_⟩
        cases first with
        | bytes b => obtain ⟨s, hs, rfl⟩ := Res.map_eq_ok.mp h; exact .inl ⟨b, tl, s, rfl, hs, rfl⟩
        | array a0 => exact .inr ⟨a0, tl, rfl, h⟩
        | _ => simp [typeError] at h
    | _ => simp [counterSigArm, tryAsArray, typeError] at h
  · rintro ⟨hd, ⟨b, tl, s, rfl, hs, rfl⟩ | ⟨a0, tl, rfl, hm⟩⟩
    · rw [counterSigArm_cons sf hd]; exact Res.map_ok_of hs
    · rw [counterSigArm_cons sf hd]; exact hm

section
variable (d : Nat) (sf : Value → Res CoseSignature) (v : Value) (h : Header)

theorem headerDispatch_alg : headerDispatch d sf (.int 1) v h = (RegLabelPriv.fromValue Reg.algorithm v).map fun a => h.setAlg (some a) := by
  simp +decide only [headerDispatch, ↓reduceIte]
  cases RegLabelPriv.fromValue Reg.algorithm v <;> rfl

theorem headerDispatch_crit : headerDispatch d sf (.int 2) v h = (critOf v).map fun ls => h.setCrit (h.crit ++ ls) := by
  simp +decide only [headerDispatch, ↓reduceIte]
  cases v <;> try rfl
  simp only [critOf]
  split <;> try rfl
  cases mapRes (RegLabel.fromValue Reg.headerParameter) _ <;> rfl

theorem headerDispatch_ct : headerDispatch d sf (.int 3) v h = (contentTypeOf v).map fun ct => h.setContentType (some ct) := by
  simp +decide only [headerDispatch, contentTypeOf, ↓reduceIte]
  cases RegLabel.fromValue Reg.coapContentFormat v with
  | ok ct => cases ct with
    | assigned k => rfl
    | text t => dsimp only; rw [show contentTypeOk (.text t) = contentTypeTextOk t from rfl]; cases contentTypeTextOk t <;> rfl
  | _ => rfl

theorem headerDispatch_kid : headerDispatch d sf (.int 4) v h = (tryAsNonemptyBytes v).map h.setKeyId := by
  simp +decide only [headerDispatch, ↓reduceIte]
  cases tryAsNonemptyBytes v <;> rfl

theorem headerDispatch_iv : headerDispatch d sf (.int 5) v h = (tryAsNonemptyBytes v).map h.setIv := by
  simp +decide only [headerDispatch, ↓reduceIte]
  cases tryAsNonemptyBytes v <;> rfl

theorem headerDispatch_piv : headerDispatch d sf (.int 6) v h = (tryAsNonemptyBytes v).map h.setPartialIv := by
  simp +decide only [headerDispatch, ↓reduceIte]
  cases tryAsNonemptyBytes v <;> rfl

theorem headerDispatch_csig :
    headerDispatch d sf (.int 7) v h = (counterSigArm d sf v).map fun ss => h.setCounterSignatures (h.counterSignatures ++ ss) := by
  simp +decide only [headerDispatch, ↓reduceIte]
  cases counterSigArm d sf v <;> rfl

end

theorem headerDispatch_other (d : Nat) (sf : Value → Res CoseSignature) (l : Label) (v : Value) (h : Header) (hl : l ∉ stdLabels) :
    headerDispatch d sf l v h = .ok (h.setRest (h.rest ++ [(l, v)])) := by
  simp only [stdLabels, List.mem_cons, List.not_mem_nil, or_false, not_or] at hl
  simp only [headerDispatch, headerLabel_values, hl, if_false]

structure HeaderFrame (l : Label) (v : Value) (h h1 : Header) : Prop where
  alg : l ≠ .int 1 → h1.alg = h.alg
  crit : l ≠ .int 2 → h1.crit = h.crit
  contentType : l ≠ .int 3 → h1.contentType = h.contentType
  keyId : l ≠ .int 4 → h1.keyId = h.keyId
  iv : l ≠ .int 5 → h1.iv = h.iv
  partialIv : l ≠ .int 6 → h1.partialIv = h.partialIv
  counterSignatures : l ≠ .int 7 → h1.counterSignatures = h.counterSignatures
  rest : h1.rest = h.rest ++ if l ∉ stdLabels then [(l, v)] else []

theorem headerDispatch_frame (d : Nat) (sf : Value → Res CoseSignature) (l : Label) (v : Value) (h h1 : Header)
    (hd : headerDispatch d sf l v h = .ok h1) : HeaderFrame l v h h1 := by
  by_cases hl : l ∈ stdLabels
  · simp only [stdLabels, List.mem_cons, List.not_mem_nil, or_false] at hl
    rcases hl with rfl | rfl | rfl | rfl | rfl | rfl | rfl
    · rw [headerDispatch_alg] at hd; obtain ⟨x, -, rfl⟩ := Res.map_eq_ok.mp hd; constructor <;> simp [Header.setAlg, stdLabels]
    · rw [headerDispatch_crit] at hd; obtain ⟨x, -, rfl⟩ := Res.map_eq_ok.mp hd; constructor <;> simp [Header.setCrit, stdLabels]
    · rw [headerDispatch_ct] at hd; obtain ⟨x, -, rfl⟩ := Res.map_eq_ok.mp hd; constructor <;> simp [Header.setContentType, stdLabels]
    · rw [headerDispatch_kid] at hd; obtain ⟨x, -, rfl⟩ := Res.map_eq_ok.mp hd; constructor <;> simp [Header.setKeyId, stdLabels]
    · rw [headerDispatch_iv] at hd; obtain ⟨x, -, rfl⟩ := Res.map_eq_ok.mp hd; constructor <;> simp [Header.setIv, stdLabels]
    · rw [headerDispatch_piv] at hd; obtain ⟨x, -, rfl⟩ := Res.map_eq_ok.mp hd; constructor <;> simp [Header.setPartialIv, stdLabels]
    · rw [headerDispatch_csig] at hd; obtain ⟨x, -, rfl⟩ := Res.map_eq_ok.mp hd
      constructor <;> simp [Header.setCounterSignatures, stdLabels]
  · rw [headerDispatch_other d sf l v h hl] at hd; cases hd
    simp only [stdLabels, List.mem_cons, List.not_mem_nil, or_false, not_or] at hl
    constructor <;> simp [Header.setRest, stdLabels, hl]

theorem fold_field {α : Type} (d : Nat) (sf : Value → Res CoseSignature) (proj : Header → α) (L : Label)
    (R : Value → Header → α → Prop)
    (frame : ∀ l v h h1, l ≠ L → headerStep d sf h (l, v) = .ok h1 → proj h1 = proj h)
    (set : ∀ v h h1, headerStep d sf h (L, v) = .ok h1 → R v h (proj h1)) :
    ∀ (ps : List (Label × Value)) (h0 h : Header), (ps.map (·.1)).Nodup → foldRes (headerStep d sf) ps h0 = .ok h →
      match lookupL L ps with
      | some v => ∃ hmid, R v hmid (proj h) ∧ proj hmid = proj h0
      | none => proj h = proj h0 :=
  fold_lookup (headerStep d sf) proj L (fun v old new => ∃ hmid, R v hmid new ∧ proj hmid = old) frame
    fun v h h1 hs => ⟨h, set v h h1 hs, rfl⟩

theorem fold_headerOf (d : Nat) (sf : Value → Res CoseSignature) (ps : List (Label × Value)) (h0 h : Header)
    (hnd : (ps.map (·.1)).Nodup) (hf : foldRes (headerStep d sf) ps h0 = .ok h) : HeaderOf (counterSigArm d sf) ps h0 h := by
  have st := fun l v h h1 (hs : headerStep d sf h (l, v) = .ok h1) => ((headerStep_ok ..).mp hs).1
  have fr := fun l v h h1 (hs : headerStep d sf h (l, v) = .ok h1) => headerDispatch_frame d sf l v h h1 (st l v h h1 hs)
  refine ⟨?_, ?_, ?_, ?_, ?_, ?_, ?_, ?_⟩
  · refine fold_lookup _ Header.alg (.int 1) (fun v _ x => ∃ a, RegLabelPriv.fromValue Reg.algorithm v = .ok a ∧ x = some a)
      (fun l v h h1 hl hs => (fr l v h h1 hs).alg hl) (fun v h h1 hs => ?_) ps h0 h hnd hf
    obtain ⟨a, ha, rfl⟩ := Res.map_eq_ok.mp ((headerDispatch_alg d sf v h).symm.trans (st _ v h h1 hs)); exact ⟨a, ha, rfl⟩
  · refine fold_lookup _ Header.crit (.int 2)
      (fun v c x => ∃ a ls, v = .array a ∧ a ≠ [] ∧ mapRes (RegLabel.fromValue Reg.headerParameter) a = .ok ls ∧ x = c ++ ls)
      (fun l v h h1 hl hs => (fr l v h h1 hs).crit hl) (fun v h h1 hs => ?_) ps h0 h hnd hf
    obtain ⟨ls, hls, rfl⟩ := Res.map_eq_ok.mp ((headerDispatch_crit d sf v h).symm.trans (st _ v h h1 hs))
    obtain ⟨a, hv, hne, hm⟩ := (critOf_ok v ls).mp hls; exact ⟨a, ls, hv, hne, hm, rfl⟩
  · refine fold_lookup _ Header.contentType (.int 3)
      (fun v _ x => ∃ ct, RegLabel.fromValue Reg.coapContentFormat v = .ok ct ∧ contentTypeOk ct = true ∧ x = some ct)
      (fun l v h h1 hl hs => (fr l v h h1 hs).contentType hl) (fun v h h1 hs => ?_) ps h0 h hnd hf
    obtain ⟨ct, hct, rfl⟩ := Res.map_eq_ok.mp ((headerDispatch_ct d sf v h).symm.trans (st _ v h h1 hs))
    obtain ⟨hv, hok⟩ := (contentTypeOf_ok v ct).mp hct; exact ⟨ct, hv, hok, rfl⟩
  · refine fold_lookup _ Header.keyId (.int 4) (fun v _ x => ∃ b, v = .bytes b ∧ b ≠ [] ∧ x = b)
      (fun l v h h1 hl hs => (fr l v h h1 hs).keyId hl) (fun v h h1 hs => ?_) ps h0 h hnd hf
    obtain ⟨b, hb, rfl⟩ := Res.map_eq_ok.mp ((headerDispatch_kid d sf v h).symm.trans (st _ v h h1 hs))
    obtain ⟨hv, hne⟩ := (tryAsNonemptyBytes_ok v b).mp hb; exact ⟨b, hv, hne, rfl⟩
  · refine fold_lookup _ Header.iv (.int 5) (fun v _ x => ∃ b, v = .bytes b ∧ b ≠ [] ∧ x = b)
      (fun l v h h1 hl hs => (fr l v h h1 hs).iv hl) (fun v h h1 hs => ?_) ps h0 h hnd hf
    obtain ⟨b, hb, rfl⟩ := Res.map_eq_ok.mp ((headerDispatch_iv d sf v h).symm.trans (st _ v h h1 hs))
    obtain ⟨hv, hne⟩ := (tryAsNonemptyBytes_ok v b).mp hb; exact ⟨b, hv, hne, rfl⟩
  · refine fold_lookup _ Header.partialIv (.int 6) (fun v _ x => ∃ b, v = .bytes b ∧ b ≠ [] ∧ x = b)
      (fun l v h h1 hl hs => (fr l v h h1 hs).partialIv hl) (fun v h h1 hs => ?_) ps h0 h hnd hf
    obtain ⟨b, hb, rfl⟩ := Res.map_eq_ok.mp ((headerDispatch_piv d sf v h).symm.trans (st _ v h h1 hs))
    obtain ⟨hv, hne⟩ := (tryAsNonemptyBytes_ok v b).mp hb; exact ⟨b, hv, hne, rfl⟩
  · refine fold_lookup _ Header.counterSignatures (.int 7) (fun v c x => ∃ ss, counterSigArm d sf v = .ok ss ∧ x = c ++ ss)
      (fun l v h h1 hl hs => (fr l v h h1 hs).counterSignatures hl) (fun v h h1 hs => ?_) ps h0 h hnd hf
    obtain ⟨ss, hss, rfl⟩ := Res.map_eq_ok.mp ((headerDispatch_csig d sf v h).symm.trans (st _ v h h1 hs)); exact ⟨ss, hss, rfl⟩
  · exact fold_rest _ Header.rest stdLabels (fun l v h h1 hs => (fr l v h h1 hs).rest) ps h0 h hf

/-- the shape rule for one entry (RFC 8152 §3.1), stated on the wire value. -/
structure EntryOk (d : Nat) (sf : Value → Res CoseSignature) (l : Label) (v : Value) : Prop where
  alg : l = .int 1 → ∃ a, RegLabelPriv.fromValue Reg.algorithm v = .ok a
  crit : l = .int 2 → ∃ a ls, v = .array a ∧ a ≠ [] ∧ mapRes (RegLabel.fromValue Reg.headerParameter) a = .ok ls
  contentType : l = .int 3 → ∃ c, RegLabel.fromValue Reg.coapContentFormat v = .ok c ∧ contentTypeOk c = true
  bstr : (l = .int 4 ∨ l = .int 5 ∨ l = .int 6) → ∃ b, v = .bytes b ∧ b ≠ []
  counterSig : l = .int 7 → ∃ ss, counterSigArm d sf v = .ok ss

theorem headerDispatch_accepts (d : Nat) (sf : Value → Res CoseSignature) (l : Label) (v : Value) (h0 : Header) (he : EntryOk d sf l v) :
    ∃ h1, headerDispatch d sf l v h0 = .ok h1 := by
  by_cases hl : l ∈ stdLabels
  · simp only [stdLabels, List.mem_cons, List.not_mem_nil, or_false] at hl
    rcases hl with rfl | rfl | rfl | rfl | rfl | rfl | rfl
    · obtain ⟨a, ha⟩ := he.alg rfl; exact ⟨_, (headerDispatch_alg ..).trans (Res.map_ok_of ha)⟩
    · obtain ⟨a, ls, h1, h2, h3⟩ := he.crit rfl
      exact ⟨_, (headerDispatch_crit ..).trans (Res.map_ok_of ((critOf_ok v ls).mpr ⟨a, h1, h2, h3⟩))⟩
    · obtain ⟨c, h1, h2⟩ := he.contentType rfl
      exact ⟨_, (headerDispatch_ct ..).trans (Res.map_ok_of ((contentTypeOf_ok v c).mpr ⟨h1, h2⟩))⟩
    · obtain ⟨b, h1, h2⟩ := he.bstr (.inl rfl)
      exact ⟨_, (headerDispatch_kid ..).trans (Res.map_ok_of ((tryAsNonemptyBytes_ok v b).mpr ⟨h1, h2⟩))⟩
    · obtain ⟨b, h1, h2⟩ := he.bstr (.inr (.inl rfl))
      exact ⟨_, (headerDispatch_iv ..).trans (Res.map_ok_of ((tryAsNonemptyBytes_ok v b).mpr ⟨h1, h2⟩))⟩
    · obtain ⟨b, h1, h2⟩ := he.bstr (.inr (.inr rfl))
      exact ⟨_, (headerDispatch_piv ..).trans (Res.map_ok_of ((tryAsNonemptyBytes_ok v b).mpr ⟨h1, h2⟩))⟩
    · obtain ⟨ss, hs⟩ := he.counterSig rfl; exact ⟨_, (headerDispatch_csig ..).trans (Res.map_ok_of hs)⟩
  · exact ⟨_, headerDispatch_other d sf l v h0 hl⟩

/-- only labels 5 / 6 populate IV / Partial IV (`headerDispatch_frame`), which gives the invariant under which every step passes the
    "not both" check. -/
theorem headerFold_accepts (d : Nat) (sf : Value → Res CoseSignature) (ps : List (Label × Value)) (h0 : Header)
    (hall : ∀ p ∈ ps, EntryOk d sf p.1 p.2)
    (hiv : ¬ ((h0.iv ≠ [] ∨ Label.int 5 ∈ ps.map (·.1)) ∧ (h0.partialIv ≠ [] ∨ Label.int 6 ∈ ps.map (·.1)))) :
    ∃ h, foldRes (headerStep d sf) ps h0 = .ok h := by
  refine foldRes_total (headerStep d sf) (fun h ps => (∀ p ∈ ps, EntryOk d sf p.1 p.2) ∧
    ¬ ((h.iv ≠ [] ∨ Label.int 5 ∈ ps.map (·.1)) ∧ (h.partialIv ≠ [] ∨ Label.int 6 ∈ ps.map (·.1)))) ?_ ps h0 ⟨hall, hiv⟩
  rintro h0 ⟨l, v⟩ ps ⟨hall, hiv⟩
  obtain ⟨h1, hd⟩ := headerDispatch_accepts d sf l v h0 (hall (l, v) (by simp))
  have fr := headerDispatch_frame d sf l v h0 h1 hd
  have hi : h1.iv ≠ [] → h0.iv ≠ [] ∨ Label.int 5 ∈ ((l, v) :: ps).map (·.1) := fun hne =>
    (Classical.em (l = .int 5)).elim (fun e => .inr (by simp [e])) (fun e => .inl (fr.iv e ▸ hne))
  have hp : h1.partialIv ≠ [] → h0.partialIv ≠ [] ∨ Label.int 6 ∈ ((l, v) :: ps).map (·.1) := fun hne =>
    (Classical.em (l = .int 6)).elim (fun e => .inr (by simp [e])) (fun e => .inl (fr.partialIv e ▸ hne))
  exact ⟨h1, (headerStep_ok ..).mpr ⟨hd, fun ⟨c1, c2⟩ => hiv ⟨hi c1, hp c2⟩⟩, fun q hq => hall q (by simp [hq]), fun ⟨c1, c2⟩ =>
    hiv ⟨c1.elim hi (fun c => .inr (by simp [c])), c2.elim hp (fun c => .inr (by simp [c]))⟩⟩

macro "frame_tac" h:ident hs:ident : tactic => `(tactic|
  (have hc := step_cases _ _ _ _ _ _ $hs
   cases $h:ident with
   | mk a c ct k i p cs r =>
     cases hc <;>
       simp_all [Header.setAlg, Header.setCrit, Header.setContentType, Header.setKeyId, Header.setIv, Header.setPartialIv,
         Header.setCounterSignatures, Header.setRest, stdLabels]))

macro "set_tac" h:ident hs:ident : tactic => `(tactic|
  (have hc := step_cases _ _ _ _ _ _ $hs
   cases $h:ident with
   | mk a c ct k i p cs r =>
     cases hc <;>
       simp_all [Header.setAlg, Header.setCrit, Header.setContentType, Header.setKeyId, Header.setIv, Header.setPartialIv,
         Header.setCounterSignatures, Header.setRest, stdLabels]))

end Coset
