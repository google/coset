/-
  A fold of per-label steps over label/value pairs (`foldRes step`, what `genLoop_ok_iff` reduces a map decoder to), field by field.
  Reading: when only the step under a field's label touches the field, then after a fold over pairwise distinct labels the field is what the
  pair under that label says (`fold_lookup`), and the catch-all field has collected the pairs under the other labels (`fold_rest`); the
  entry such a field is written back as is then the pair it was read from (`opt_field_wire`, `bytes_field_wire`).
  Re-reading what a structure emits: one entry at most per typed field, each setting its field, then the catch-all list
  (`foldRes_optEntry`, `foldRes_listEntry`, `foldRes_rest`).
-/
import CosetProofs.MapLoop
namespace Coset

/- `(ps.find? (fun p => p.1 = l)).map (·.2)` is the value under label `l` (`Spec.lookupL`, `lookupN` unfolded). -/

theorem find_cons_fst {L : Type} [DecidableEq L] (l0 l : L) (v : Value) (ps : List (L × Value)) :
    ((((l, v) :: ps).find? (fun p => p.1 = l0)).map (·.2)) = if l = l0 then some v else (ps.find? (fun p => p.1 = l0)).map (·.2) := by
  by_cases h : l = l0 <;> simp [List.find?, h]

theorem find_fst_none {L : Type} [DecidableEq L] (l0 : L) (ps : List (L × Value)) (h : l0 ∉ ps.map (·.1)) :
    (ps.find? (fun p => p.1 = l0)).map (·.2) = none := by
  simp only [Option.map_eq_none_iff, List.find?_eq_none, decide_eq_true_eq]
  intro p hp e; exact h (List.mem_map.mpr ⟨p, hp, e⟩)

theorem find_fst_of_mem {L : Type} [DecidableEq L] (l : L) (v : Value) : ∀ (ps : List (L × Value)), (ps.map (·.1)).Nodup → (l, v) ∈ ps →
    (ps.find? (fun p => p.1 = l)).map (·.2) = some v
  | (l', v') :: ps, hnd, hm => by
    rw [find_cons_fst]
    simp only [List.map_cons, List.nodup_cons] at hnd
    rcases List.mem_cons.mp hm with h | h
    · cases h; simp
    · have : l' ≠ l := fun e => hnd.1 (e ▸ List.mem_map.mpr ⟨(l, v), h, rfl⟩)
      simp [this, find_fst_of_mem l v ps hnd.2 h]

theorem mem_of_find_fst {L : Type} [DecidableEq L] {l : L} {w : Value} {ps : List (L × Value)}
    (h : (ps.find? (fun p => p.1 = l)).map (·.2) = some w) : (l, w) ∈ ps := by
  obtain ⟨p, hp, rfl⟩ := Option.map_eq_some_iff.mp h
  have hl : p.1 = l := by simpa using List.find?_some hp
  subst hl
  exact List.mem_of_find?_eq_some hp

theorem fold_lookup {L σ α : Type} [DecidableEq L] (step : σ → L × Value → Res σ) (proj : σ → α) (l0 : L) (R : Value → α → α → Prop)
    (frame : ∀ l v s s1, l ≠ l0 → step s (l, v) = .ok s1 → proj s1 = proj s)
    (set : ∀ v s s1, step s (l0, v) = .ok s1 → R v (proj s) (proj s1)) :
    ∀ (ps : List (L × Value)) (s0 s : σ), (ps.map (·.1)).Nodup → foldRes step ps s0 = .ok s →
      match (ps.find? (fun p => p.1 = l0)).map (·.2) with
      | some v => R v (proj s0) (proj s)
      | none => proj s = proj s0
  | [], s0, s, _, hf => by cases (foldRes_nil_ok ..).mp hf; rfl
  | (l, v) :: ps, s0, s, hnd, hf => by
    obtain ⟨s1, hs, hf'⟩ := (foldRes_cons_ok ..).mp hf
    simp only [List.map_cons, List.nodup_cons] at hnd
    have ih := fold_lookup step proj l0 R frame set ps s1 s hnd.2 hf'
    rw [find_cons_fst]
    by_cases hl : l = l0
    · subst hl
      rw [find_fst_none l ps hnd.1] at ih
      simp only [if_true]
      rw [show proj s = proj s1 from ih]
      exact set v s0 s1 hs
    · simpa only [hl, if_false, frame l v s0 s1 hl hs] using ih

theorem fold_rest {L σ : Type} [DecidableEq L] (step : σ → L × Value → Res σ) (rest : σ → List (L × Value)) (typed : List L)
    (hstep : ∀ l v s s1, step s (l, v) = .ok s1 → rest s1 = rest s ++ if l ∉ typed then [(l, v)] else []) :
    ∀ (ps : List (L × Value)) (s0 s : σ), foldRes step ps s0 = .ok s → rest s = rest s0 ++ ps.filter (fun p => p.1 ∉ typed)
  | [], s0, s, hf => by cases (foldRes_nil_ok ..).mp hf; simp
  | (l, v) :: ps, s0, s, hf => by
    obtain ⟨s1, hs, hf'⟩ := (foldRes_cons_ok ..).mp hf
    rw [fold_rest step rest typed hstep ps s1 s hf', hstep l v s0 s1 hs]
    by_cases hl : l ∈ typed <;> simp [hl]

/-- a field read as in `fold_lookup`, under a label that does occur. -/
theorem field_of_mem {L : Type} [DecidableEq L] {l : L} {w : Value} {ps : List (L × Value)} {P : Value → Prop} {Q : Prop}
    (hnd : (ps.map (·.1)).Nodup) (hm : (l, w) ∈ ps)
    (h : match (ps.find? (fun p => p.1 = l)).map (·.2) with | some v => P v | none => Q) : P w := by
  rw [find_fst_of_mem l w ps hnd hm] at h; exact h

theorem field_cases {o : Option Value} {P : Value → Prop} {Q : Prop} (h : match o with | some v => P v | none => Q) :
    (o = none ∧ Q) ∨ ∃ v, o = some v ∧ P v := by
  cases o with
  | none => exact .inl ⟨rfl, h⟩
  | some v => exact .inr ⟨v, rfl, h⟩

/-- `S v a`: the value `v` decodes to `a`. -/
theorem opt_field_src {α : Type} {o : Option Value} {x : Option α} {S : Value → α → Prop}
    (h : match o with | some v => ∃ a, S v a ∧ x = some a | none => x = none) (a : α) (ha : x = some a) : ∃ v, S v a := by
  cases o with
  | none => cases h.symm.trans ha
  | some v => obtain ⟨a', hs, hx⟩ := h; cases hx.symm.trans ha; exact ⟨v, hs⟩

/-- `D v t`: the value `v` decodes to `t`, as in `opt_field_src`. -/
theorem opt_field_wire {L α : Type} [DecidableEq L] (l : L) (ps : List (L × Value)) (o : Option α) (val : α → Value)
    (D : Value → α → Prop) (hval : ∀ v t, D v t → val t = v)
    (h : match (ps.find? (fun p => p.1 = l)).map (·.2) with | some v => ∃ t, D v t ∧ o = some t | none => o = none) :
    ∀ e ∈ o.toList.map (fun t => (l, val t)), e ∈ ps := by
  cases hl : (ps.find? (fun p => p.1 = l)).map (·.2) <;> simp only [hl] at h
  · subst h; simp
  · obtain ⟨t, hd, rfl⟩ := h
    obtain rfl := hval _ t hd
    simpa using mem_of_find_fst hl

/-- a byte-string field (empty = absent), likewise. -/
theorem bytes_field_wire {L : Type} [DecidableEq L] (l : L) (ps : List (L × Value)) (b : Bytes)
    (h : match (ps.find? (fun p => p.1 = l)).map (·.2) with | some v => ∃ b', v = .bytes b' ∧ b' ≠ [] ∧ b = b' | none => b = []) :
    ∀ e ∈ (if !b.isEmpty then [(l, Value.bytes b)] else []), e ∈ ps := by
  cases hl : (ps.find? (fun p => p.1 = l)).map (·.2) <;> simp only [hl] at h
  · subst h; simp
  · obtain ⟨b', rfl, _, rfl⟩ := h
    split
    · simpa using mem_of_find_fst hl
    · simp

theorem filter_untyped {L β : Type} [DecidableEq L] (typed : List L) (ps : List (L × β)) (hnd : (ps.map (·.1)).Nodup) :
    ((ps.filter fun p => p.1 ∉ typed).map (·.1)).Nodup ∧ ∀ l ∈ (ps.filter fun p => p.1 ∉ typed).map (·.1), l ∉ typed ∧ l ∈ ps.map (·.1) := by
  refine ⟨hnd.sublist (List.filter_sublist.map _), fun l hl => ?_⟩
  obtain ⟨p, hp, rfl⟩ := List.mem_map.mp hl
  obtain ⟨hm, ht⟩ := List.mem_filter.mp hp
  exact ⟨by simpa using ht, List.mem_map.mpr ⟨p, hm, rfl⟩⟩

/- In the three lemmas on emitted entries the states passed through are written as one function (`set`, `mk`) of the field concerned, so that
   "absent" and "present" need no case distinction at the call. -/

theorem foldRes_optEntry {σ L α : Type} (step : σ → L × Value → Res σ) (n : L) (f : α → Value) (set : Option α → σ) (o : Option α) {s : σ}
    (h0 : set none = s) (h1 : ∀ a, o = some a → step s (n, f a) = .ok (set (some a))) :
    foldRes step (o.toList.map fun a => (n, f a)) s = .ok (set o) := by
  cases o with
  | none => rw [← h0]; rfl
  | some a => simp only [Option.toList_some, List.map_cons, List.map_nil, foldRes, h1 a rfl]

theorem foldRes_listEntry {σ L γ : Type} (step : σ → L × Value → Res σ) (n : L) (f : List γ → Value) (set : List γ → σ) (x : List γ) {s : σ}
    (h0 : set [] = s) (h1 : x ≠ [] → step s (n, f x) = .ok (set x)) :
    foldRes step (if !x.isEmpty then [(n, f x)] else []) s = .ok (set x) := by
  cases x with
  | nil => rw [← h0]; rfl
  | cons a as => simp only [List.isEmpty_cons, Bool.not_false, if_true, foldRes, h1 (List.cons_ne_nil a as)]

theorem foldRes_rest {σ L : Type} (step : σ → L × Value → Res σ) (typed : List L) (mk : List (L × Value) → σ)
    (hstep : ∀ r l v, l ∉ typed → step (mk r) (l, v) = .ok (mk (r ++ [(l, v)]))) :
    ∀ (ps r : List (L × Value)), (∀ l ∈ ps.map (·.1), l ∉ typed) → foldRes step ps (mk r) = .ok (mk (r ++ ps))
  | [], r, _ => by rw [List.append_nil]; rfl
  | (l, v) :: ps, r, hl => by
    rw [foldRes, hstep r l v (hl l (by simp))]
    simpa using foldRes_rest step typed mk hstep ps (r ++ [(l, v)]) fun x hx => hl x (by simp [hx])

/-- a map decoder run on what its type emits: the typed entries `E` (labels among `T`), which fold to the value that holds the typed fields
    and nothing else (`mk []`), then the catch-all pairs `R`, each of which the step appends.  (`hk`, `hc`: as for the `genLoop_*` lemmas.) -/
theorem genLoop_entries {L σ : Type} [DecidableEq L] {keyFrom : Value → Res L} {cmpL : L → L → Res Ordering} {step : σ → L × Value → Res σ}
    {Good : L → Prop} (hk : ∀ k l, keyFrom k = .ok l → Good l)
    (hc : ∀ seen l, (∀ x ∈ seen, Good x) → Good l → setContains cmpL seen l = .ok (decide (l ∈ seen)))
    (kv : L → Value) (T : List L) (mk : List (L × Value) → σ) {E R : List (L × Value)} {s0 : σ}
    (hT : T.Nodup) (hE : (E.map (·.1)).Sublist T) (hkT : ∀ l ∈ T, keyFrom (kv l) = .ok l)
    (hnd : (R.map (·.1)).Nodup) (hns : ∀ l ∈ R.map (·.1), l ∉ T) (hkR : ∀ l ∈ R.map (·.1), keyFrom (kv l) = .ok l)
    (hfold : foldRes step E s0 = .ok (mk [])) (hother : ∀ r l v, l ∉ T → step (mk r) (l, v) = .ok (mk (r ++ [(l, v)]))) :
    genLoop keyFrom cmpL step ((E ++ R).map fun p => (kv p.1, p.2)) s0 [] = .ok (mk R) :=
  genLoop_emitted keyFrom cmpL step Good hk hc kv _ _ _
    (by rw [List.map_append]; exact fun l hl => (List.mem_append.mp hl).elim (fun h => hkT l (hE.subset h)) (hkR l))
    (by rw [List.map_append, List.nodup_append]; exact ⟨hE.nodup hT, hnd, fun a ha b hb hab => hns b hb (hab ▸ hE.subset ha)⟩)
    (foldRes_append_ok hfold (by simpa using foldRes_rest step T mk hother R [] hns))

end Coset
