/-
  The positional decoders of the array-shaped structures: each restated once as what it does on an array of the right length (in `do`
  form) and a type error on everything else; the slot-by-slot characterisations (both directions) follow from that.  The readers of a
  single value are in Res.lean.
-/
import CosetProofs.Res
namespace Coset

/-- the nonce slot of `PartyInfo::from_cbor_value`: nil, a byte string, or an integer that fits `i64`. -/
def nonceOf : Value → Res (Option Nonce)
  | .null => .ok none
  | .bytes b => .ok (some (.bytes b))
  | .int u => narrowI64 u >>= fun n => .ok (some (.integer n))
  | _ => typeError

def nonceValue : Option Nonce → Value
  | none => .null
  | some (.bytes b) => .bytes b
  | some (.integer i) => .int i

theorem nonceOf_ok (x : Value) (o : Option Nonce) :
    nonceOf x = .ok o ↔ nonceValue o = x ∧ ∀ n, o = some (.integer n) → i64Min ≤ n ∧ n ≤ i64Max := by
  constructor
  · intro h
    cases x with
    | null => cases h; exact ⟨rfl, nofun⟩
    | bytes b => cases h; exact ⟨rfl, nofun⟩
    | int u =>
      obtain ⟨n, hn, h⟩ := Res.bind_eq_ok.mp h; cases h
      obtain ⟨hr, rfl⟩ := narrowI64_ok.mp hn; exact ⟨rfl, fun _ e => by cases e; exact hr⟩
    | _ => cases h
  · rintro ⟨rfl, hw⟩
    rcases o with _ | b | i
    · rfl
    · rfl
    · exact Res.bind_eq_ok.mpr ⟨i, narrowI64_ok.mpr ⟨hw i rfl, rfl⟩, rfl⟩

theorem tryAsArrayThenConvert_ok {α : Type} (f : Value → Res α) (v : Value) (xs : List α) :
    tryAsArrayThenConvert f v = .ok xs ↔ ∃ a, v = .array a ∧ mapRes f a = .ok xs := by
  cases v <;> simp [tryAsArrayThenConvert, tryAsArray, typeError]

theorem list_len2 {α : Type} (a : List α) (h : a.length = 2) : ∃ x0 x1, a = [x0, x1] := by
  match a, h with
  | [x0, x1], _ => exact ⟨x0, x1, rfl⟩
theorem list_len3 {α : Type} (a : List α) (h : a.length = 3) : ∃ x0 x1 x2, a = [x0, x1, x2] := by
  match a, h with
  | [x0, x1, x2], _ => exact ⟨x0, x1, x2, rfl⟩
theorem list_len4 {α : Type} (a : List α) (h : a.length = 4) : ∃ x0 x1 x2 x3, a = [x0, x1, x2, x3] := by
  match a, h with
  | [x0, x1, x2, x3], _ => exact ⟨x0, x1, x2, x3, rfl⟩
theorem list_len5 {α : Type} (a : List α) (h : a.length = 5) : ∃ x0 x1 x2 x3 x4, a = [x0, x1, x2, x3, x4] := by
  match a, h with
  | [x0, x1, x2, x3, x4], _ => exact ⟨x0, x1, x2, x3, x4, rfl⟩

/-- every positional decoder starts the same way: not an array, or an array of the wrong length, is a type error. -/
theorem arity_reject {α : Type} {bad : Nat → Bool} {body : List Value → Res α} {v : Value} (h : ∀ a, v = .array a → bad a.length = true) :
    (tryAsArray v >>= fun a => if bad a.length then .err .unexpectedItem else body a) = typeError := by
  cases v <;> try rfl
  next a => show (if _ then _ else _) = _; rw [if_pos (h a rfl)]; rfl

/-- the `for i in (4..a.len()).rev()` loop of the KDF context: it takes the elements after the fourth, last to first, each of which must
    be a byte string, and leaves the first four. -/
theorem kdfTail_eq (pre : List Value) : ∀ (rt : List Value) (acc : List Bytes) (_ : pre.length = 4),
    kdfTail (List.range' 4 rt.length).reverse (pre ++ rt.reverse) acc = mapRes tryAsBytes rt >>= fun bs => pure (acc ++ bs, pre)
  | [], acc, _ => by simp [kdfTail, mapRes]
  | x :: rt, acc, hp => by
    have hl : 4 + rt.length = (pre ++ rt.reverse).length := by simp [hp]
    rw [List.length_cons, List.range'_concat, List.reverse_append, List.reverse_singleton, List.singleton_append, Nat.one_mul, kdfTail,
      List.reverse_cons, ← List.append_assoc, hl, vremove_concat, mapRes_cons]
    cases hb : tryAsBytes x <;> simp only [hb, Res.bind_ok, Res.bind_err, Res.bind_panic]
    rw [kdfTail_eq pre rt _ hp]; cases mapRes tryAsBytes rt <;> simp

/- The equations below hold by unfolding alone: both sides are the same nest of case distinctions (see the head of Res.lean).  Where the
   model reads an optional last slot in an inner `match` that returns the slot paired with the remaining array (`recipient_eq`, `supp_eq`),
   the `do` form binds the slot alone: the inner `match` is shown as a `>>=` and split on the slot's result, then both sides unfold alike. -/
section
set_option smartUnfolding false

theorem headersTail_eq (x0 x1 : Value) (rest : List Value) : headersTail (x0 :: x1 :: rest) 1 0 =
    (do let u ← hdrFromValue x1; let p ← phFromBstr x0; pure (p, u)) := rfl

theorem payloadTail_eq (x0 x1 x2 : Value) (rest : List Value) : payloadTail (x0 :: x1 :: x2 :: rest) 2 1 0 =
    (do let pl ← optBytes x2; let (p, u) ← headersTail (x0 :: x1 :: rest) 1 0; pure (p, u, pl)) := rfl

theorem sign1_eq (v : Value) : CoseSign1.fromValue v = match v with
    | .array [x0, x1, x2, x3] => do
      let sig ← tryAsBytes x3; let (p, u, pl) ← payloadTail [x0, x1, x2] 2 1 0; pure ⟨p, u, pl, sig⟩
    | _ => typeError := by
  split
  · rfl
  · next hne =>
    refine arity_reject fun a ha => ?_
    simp only [Gen.CoseSign1_arityBad, bne_iff_ne]; intro hl; obtain ⟨_, _, _, _, rfl⟩ := list_len4 a hl; exact hne _ _ _ _ ha

theorem mac0_eq (v : Value) : CoseMac0.fromValue v = match v with
    | .array [x0, x1, x2, x3] => do
      let tag ← tryAsBytes x3; let (p, u, pl) ← payloadTail [x0, x1, x2] 2 1 0; pure ⟨p, u, pl, tag⟩
    | _ => typeError := by
  split
  · rfl
  · next hne =>
    refine arity_reject fun a ha => ?_
    simp only [Gen.CoseMac0_arityBad, bne_iff_ne]; intro hl; obtain ⟨_, _, _, _, rfl⟩ := list_len4 a hl; exact hne _ _ _ _ ha

theorem encrypt0_eq (v : Value) : CoseEncrypt0.fromValue v = match v with
    | .array [x0, x1, x2] => do let (p, u, ct) ← payloadTail [x0, x1, x2] 2 1 0; pure ⟨p, u, ct⟩
    | _ => typeError := by
  split
  · rfl
  · next hne =>
    refine arity_reject fun a ha => ?_
    simp only [Gen.CoseEncrypt0_arityBad, bne_iff_ne]; intro hl; obtain ⟨_, _, _, rfl⟩ := list_len3 a hl; exact hne _ _ _ ha

theorem signature_eq (fuel d : Nat) (v : Value) : CoseSignature.fromValue (fuel + 1) d v = match v with
    | .array [x0, x1, x2] => do
      let sig ← tryAsBytes x2; let u ← Header.fromValue fuel d x1; let p ← ProtectedHeader.fromBstr fuel d x0; pure (.mk p u sig)
    | _ => typeError := by
  split
  · rw [CoseSignature.fromValue]; rfl
  · next hne =>
    rw [CoseSignature.fromValue]
    refine arity_reject fun a ha => ?_
    simp only [Gen.CoseSignature_arityBad, bne_iff_ne]; intro hl; obtain ⟨_, _, _, rfl⟩ := list_len3 a hl; exact hne _ _ _ ha

theorem sign_eq (v : Value) : CoseSign.fromValue v = match v with
    | .array [x0, x1, x2, x3] => do
      let sigs ← tryAsArrayThenConvert (fun v => (sigFromValue v).mapErr .unexpectedItem) x3
      let pl ← optBytes x2; let u ← hdrFromValue x1; let p ← phFromBstr x0; pure ⟨p, u, pl, sigs⟩
    | _ => typeError := by
  split
  · rfl
  · next hne =>
    refine arity_reject fun a ha => ?_
    simp only [Gen.CoseSign_arityBad, bne_iff_ne]; intro hl; obtain ⟨_, _, _, _, rfl⟩ := list_len4 a hl; exact hne _ _ _ _ ha

theorem mac_eq (v : Value) : CoseMac.fromValue v = match v with
    | .array [x0, x1, x2, x3, x4] => do
      let rs ← tryAsArrayThenConvert rcpFromValue x4; let tag ← tryAsBytes x3
      let (p, u, pl) ← payloadTail [x0, x1, x2] 2 1 0; pure ⟨p, u, pl, tag, rs⟩
    | _ => typeError := by
  split
  · rfl
  · next hne =>
    refine arity_reject fun a ha => ?_
    simp only [Gen.CoseMac_arityBad, bne_iff_ne]; intro hl; obtain ⟨_, _, _, _, _, rfl⟩ := list_len5 a hl; exact hne _ _ _ _ _ ha

theorem encrypt_eq (v : Value) : CoseEncrypt.fromValue v = match v with
    | .array [x0, x1, x2, x3] => do
      let rs ← tryAsArrayThenConvert rcpFromValue x3; let (p, u, ct) ← payloadTail [x0, x1, x2] 2 1 0; pure ⟨p, u, ct, rs⟩
    | _ => typeError := by
  split
  · rfl
  · next hne =>
    refine arity_reject fun a ha => ?_
    simp only [Gen.CoseEncrypt_arityBad, bne_iff_ne]; intro hl; obtain ⟨_, _, _, _, rfl⟩ := list_len4 a hl; exact hne _ _ _ _ ha

theorem recipient_eq (fuel : Nat) (v : Value) : CoseRecipient.fromValue (fuel + 1) v = match v with
    | .array [x0, x1, x2] => do let (p, u, ct) ← payloadTail [x0, x1, x2] 2 1 0; pure (.mk p u ct [])
    | .array [x0, x1, x2, x3] => do
      let rs ← tryAsArrayThenConvert (CoseRecipient.fromValue fuel) x3; let (p, u, ct) ← payloadTail [x0, x1, x2] 2 1 0; pure (.mk p u ct rs)
    | _ => typeError := by
  split
  · rw [CoseRecipient.fromValue]; rfl
  · next x0 x1 x2 x3 =>
    rw [CoseRecipient.fromValue]
    show ((tryAsArrayThenConvert (CoseRecipient.fromValue fuel) x3 >>= fun rs => Res.ok (rs, [x0, x1, x2])) >>= _) = _
    cases tryAsArrayThenConvert (CoseRecipient.fromValue fuel) x3 <;> rfl
  · next h3 h4 =>
    rw [CoseRecipient.fromValue]
    refine arity_reject fun a ha => ?_
    simp only [Gen.CoseRecipient_arityBad, Bool.and_eq_true, bne_iff_ne]
    exact ⟨fun hl => by obtain ⟨_, _, _, rfl⟩ := list_len3 a hl; exact h3 _ _ _ ha,
        fun hl => by obtain ⟨_, _, _, _, rfl⟩ := list_len4 a hl; exact h4 _ _ _ _ ha⟩

theorem protected_eq (fuel d : Nat) (x : Value) : ProtectedHeader.fromBstr (fuel + 1) d x = match x with
    | .bytes data =>
      if data.isEmpty then .ok (.mk (some data) Header.default)
      else do let v ← readToValue data; let h ← Header.fromValue fuel d v; pure (.mk (some data) h)
    | _ => typeError := by
  rw [ProtectedHeader.fromBstr]; cases x <;> rfl

theorem party_eq (v : Value) : PartyInfo.fromValue v = match v with
    | .array [x0, x1, x2] => do
      let other ← optBytes x2; let nonce ← nonceOf x1; let identity ← optBytes x0; pure ⟨identity, nonce, other⟩
    | _ => typeError := by
  split
  · next x0 x1 x2 => rw [← nullOrBytes_eq]; cases x1 <;> rfl
  · next hne =>
    refine arity_reject fun a ha => ?_
    simp only [Gen.PartyInfo_arityBad, bne_iff_ne]; intro hl; obtain ⟨_, _, _, rfl⟩ := list_len3 a hl; exact hne _ _ _ ha

theorem supp_eq (v : Value) : SuppPubInfo.fromValue v = match v with
    | .array [x0, x1] => do
      let prot ← phFromBstr x1; let n ← tryAsInteger x0; let len ← narrowU64 n; pure ⟨len, prot, none⟩
    | .array [x0, x1, x2] => do
      let b ← tryAsBytes x2; let prot ← phFromBstr x1; let n ← tryAsInteger x0; let len ← narrowU64 n; pure ⟨len, prot, some b⟩
    | _ => typeError := by
  split
  · rfl
  · next x0 x1 x2 =>
    show ((tryAsBytes x2 >>= fun b => Res.ok (some b, [x0, x1])) >>= _) = _
    cases tryAsBytes x2 <;> rfl
  · next h2 h3 =>
    refine arity_reject fun a ha => ?_
    simp only [Gen.SuppPubInfo_arityBad, Bool.and_eq_true, bne_iff_ne]
    exact ⟨fun hl => by obtain ⟨_, _, rfl⟩ := list_len2 a hl; exact h2 _ _ ha,
      fun hl => by obtain ⟨_, _, _, rfl⟩ := list_len3 a hl; exact h3 _ _ _ ha⟩

theorem kdf_eq (v : Value) : CoseKdfContext.fromValue v = match v with
    | .array (x0 :: x1 :: x2 :: x3 :: tail) => do
      let priv ← mapRes tryAsBytes tail.reverse
      let supp ← SuppPubInfo.fromValue x3; let pv ← PartyInfo.fromValue x2; let pu ← PartyInfo.fromValue x1
      let alg ← RegLabelPriv.fromValue Reg.algorithm x0; pure ⟨alg, pu, pv, supp, priv.reverse⟩
    | _ => typeError := by
  split
  · next x0 x1 x2 x3 tail =>
    have h4 : ¬ (x0 :: x1 :: x2 :: x3 :: tail).length < 4 := by simp
    have ht : kdfTail (List.range' 4 ((x0 :: x1 :: x2 :: x3 :: tail).length - 4)).reverse (x0 :: x1 :: x2 :: x3 :: tail) [] =
        mapRes tryAsBytes tail.reverse >>= fun bs => pure ([] ++ bs, [x0, x1, x2, x3]) := by
      simpa using kdfTail_eq [x0, x1, x2, x3] tail.reverse [] rfl
    simp only [CoseKdfContext.fromValue, tryAsArray, Gen.CoseKdfContext_arityBad, h4, decide_false, Bool.false_eq_true, if_false, ht]
    cases mapRes tryAsBytes tail.reverse <;> rfl
  · next hne =>
    refine arity_reject fun a ha => ?_
    match a, ha with
    | _ :: _ :: _ :: _ :: _, ha => exact absurd ha (hne _ _ _ _ _)
    | [], _ | [_], _ | [_, _], _ | [_, _, _], _ => rfl

end

/-- non-vacuity: a KDF context of its four mandatory elements is accepted, one of three elements refused. -/
example : (fromSlice CoseKdfContext.fromValue [0x84, 0x26, 0x83, 0xf6, 0xf6, 0xf6, 0x83, 0xf6, 0xf6, 0xf6, 0x82, 0x18, 0x80, 0x40]).isOk = true := by decide +kernel
example : (fromSlice CoseKdfContext.fromValue [0x83, 0x26, 0x83, 0xf6, 0xf6, 0xf6, 0x83, 0xf6, 0xf6, 0xf6]).errKind? = some .unexpectedItem := by decide +kernel

theorem payloadTail_ok (x0 x1 x2 : Value) (rest : List Value) (p : ProtectedHeader) (u : Header) (pl : Option Bytes) :
    payloadTail (x0 :: x1 :: x2 :: rest) 2 1 0 = .ok (p, u, pl) ↔
      (phFromBstr x0 = .ok p ∧ hdrFromValue x1 = .ok u ∧ optBytes x2 = .ok pl) := by
  simp only [payloadTail_eq, headersTail_eq, Res.bind_eq_ok, Res.pure_eq, Res.ok.injEq, Prod.mk.injEq]
  constructor
  · rintro ⟨_, ho, _, ⟨_, hu, _, hp, rfl⟩, rfl, rfl, rfl⟩; exact ⟨hp, hu, ho⟩
  · rintro ⟨hp, hu, ho⟩; exact ⟨_, ho, _, ⟨_, hu, _, hp, rfl⟩, rfl, rfl, rfl⟩

/-- COSE_Sign1 = [protected bstr, unprotected map, payload bstr/nil, signature bstr] — exactly. -/
theorem sign1_ok_iff (v : Value) (m : CoseSign1) :
    CoseSign1.fromValue v = .ok m ↔
      ∃ x0 x1 x2, v = .array [x0, x1, x2, .bytes m.signature] ∧ phFromBstr x0 = .ok m.protected_ ∧
        hdrFromValue x1 = .ok m.unprotected ∧ optBytes x2 = .ok m.payload := by
  rw [sign1_eq]; split
  · simp only [Res.bind_eq_ok, tryAsBytes_ok]
    constructor
    · rintro ⟨_, rfl, ⟨_, _, _⟩, ht, h⟩; cases h; exact ⟨_, _, _, rfl, (payloadTail_ok ..).mp ht⟩
    · rintro ⟨_, _, _, h, ht⟩; cases h; exact ⟨_, rfl, _, (payloadTail_ok ..).mpr ht, rfl⟩
  · next hne => simp only [typeError, reduceCtorEq, false_iff]; rintro ⟨_, _, _, h, _⟩; exact hne _ _ _ _ h

/-- COSE_Mac0 = [protected, unprotected, payload bstr/nil, tag bstr]. -/
theorem mac0_ok_iff (v : Value) (m : CoseMac0) :
    CoseMac0.fromValue v = .ok m ↔
      ∃ x0 x1 x2, v = .array [x0, x1, x2, .bytes m.tag] ∧ phFromBstr x0 = .ok m.protected_ ∧
        hdrFromValue x1 = .ok m.unprotected ∧ optBytes x2 = .ok m.payload := by
  rw [mac0_eq]; split
  · simp only [Res.bind_eq_ok, tryAsBytes_ok]
    constructor
    · rintro ⟨_, rfl, ⟨_, _, _⟩, ht, h⟩; cases h; exact ⟨_, _, _, rfl, (payloadTail_ok ..).mp ht⟩
    · rintro ⟨_, _, _, h, ht⟩; cases h; exact ⟨_, rfl, _, (payloadTail_ok ..).mpr ht, rfl⟩
  · next hne => simp only [typeError, reduceCtorEq, false_iff]; rintro ⟨_, _, _, h, _⟩; exact hne _ _ _ _ h

/-- COSE_Encrypt0 = [protected, unprotected, ciphertext bstr/nil]. -/
theorem encrypt0_ok_iff (v : Value) (m : CoseEncrypt0) :
    CoseEncrypt0.fromValue v = .ok m ↔
      ∃ x0 x1 x2, v = .array [x0, x1, x2] ∧ phFromBstr x0 = .ok m.protected_ ∧
        hdrFromValue x1 = .ok m.unprotected ∧ optBytes x2 = .ok m.ciphertext := by
  rw [encrypt0_eq]; split
  · simp only [Res.bind_eq_ok]
    constructor
    · rintro ⟨⟨_, _, _⟩, ht, h⟩; cases h; exact ⟨_, _, _, rfl, (payloadTail_ok ..).mp ht⟩
    · rintro ⟨_, _, _, h, ht⟩; cases h; exact ⟨_, (payloadTail_ok ..).mpr ht, rfl⟩
  · next hne => simp only [typeError, reduceCtorEq, false_iff]; rintro ⟨_, _, _, h, _⟩; exact hne _ _ _ h

/-- COSE_Signature = [protected, unprotected, signature bstr]. -/
theorem signature_ok_iff (fuel d : Nat) (v : Value) (s : CoseSignature) :
    CoseSignature.fromValue (fuel + 1) d v = .ok s ↔
      ∃ x0 x1, v = .array [x0, x1, .bytes s.signature] ∧ ProtectedHeader.fromBstr fuel d x0 = .ok s.protected_ ∧
        Header.fromValue fuel d x1 = .ok s.unprotected := by
  rw [signature_eq]; split
  · simp only [Res.bind_eq_ok, tryAsBytes_ok]
    constructor
    · rintro ⟨_, rfl, _, hu, _, hp, h⟩; cases h; exact ⟨_, _, rfl, hp, hu⟩
    · rintro ⟨_, _, h, hp, hu⟩; cases h; cases s; exact ⟨_, rfl, _, hu, _, hp, rfl⟩
  · next hne => simp only [typeError, reduceCtorEq, false_iff]; rintro ⟨_, _, h, _⟩; exact hne _ _ _ h

/-- COSE_Sign = [protected, unprotected, payload bstr/nil, [COSE_Signature…]]. -/
theorem sign_ok_iff (v : Value) (m : CoseSign) :
    CoseSign.fromValue v = .ok m ↔
      ∃ x0 x1 x2 sigs, v = .array [x0, x1, x2, .array sigs] ∧ phFromBstr x0 = .ok m.protected_ ∧ hdrFromValue x1 = .ok m.unprotected ∧
        optBytes x2 = .ok m.payload ∧ mapRes (fun s => (sigFromValue s).mapErr .unexpectedItem) sigs = .ok m.signatures := by
  rw [sign_eq]; split
  · simp only [Res.bind_eq_ok, tryAsArrayThenConvert_ok]
    constructor
    · rintro ⟨_, ⟨_, rfl, hs⟩, _, ho, _, hu, _, hp, h⟩; cases h; exact ⟨_, _, _, _, rfl, hp, hu, ho, hs⟩
    · rintro ⟨_, _, _, _, h, hp, hu, ho, hs⟩; cases h; exact ⟨_, ⟨_, rfl, hs⟩, _, ho, _, hu, _, hp, rfl⟩
  · next hne => simp only [typeError, reduceCtorEq, false_iff]; rintro ⟨_, _, _, _, h, _⟩; exact hne _ _ _ _ h

/-- COSE_Mac = [protected, unprotected, payload bstr/nil, tag bstr, [COSE_recipient…]]. -/
theorem mac_ok_iff (v : Value) (m : CoseMac) :
    CoseMac.fromValue v = .ok m ↔
      ∃ x0 x1 x2 rs, v = .array [x0, x1, x2, .bytes m.tag, .array rs] ∧ phFromBstr x0 = .ok m.protected_ ∧ hdrFromValue x1 = .ok m.unprotected ∧
        optBytes x2 = .ok m.payload ∧ mapRes rcpFromValue rs = .ok m.recipients := by
  rw [mac_eq]; split
  · simp only [Res.bind_eq_ok, tryAsArrayThenConvert_ok, tryAsBytes_ok]
    constructor
    · rintro ⟨_, ⟨_, rfl, hs⟩, _, rfl, ⟨_, _, _⟩, ht, h⟩; cases h
      obtain ⟨hp, hu, ho⟩ := (payloadTail_ok ..).mp ht; exact ⟨_, _, _, _, rfl, hp, hu, ho, hs⟩
    · rintro ⟨_, _, _, _, h, hp, hu, ho, hs⟩; cases h; exact ⟨_, ⟨_, rfl, hs⟩, _, rfl, _, (payloadTail_ok ..).mpr ⟨hp, hu, ho⟩, rfl⟩
  · next hne => simp only [typeError, reduceCtorEq, false_iff]; rintro ⟨_, _, _, _, h, _⟩; exact hne _ _ _ _ _ h

/-- COSE_Encrypt = [protected, unprotected, ciphertext bstr/nil, [COSE_recipient…]]. -/
theorem encrypt_ok_iff (v : Value) (m : CoseEncrypt) :
    CoseEncrypt.fromValue v = .ok m ↔
      ∃ x0 x1 x2 rs, v = .array [x0, x1, x2, .array rs] ∧ phFromBstr x0 = .ok m.protected_ ∧ hdrFromValue x1 = .ok m.unprotected ∧
        optBytes x2 = .ok m.ciphertext ∧ mapRes rcpFromValue rs = .ok m.recipients := by
  rw [encrypt_eq]; split
  · simp only [Res.bind_eq_ok, tryAsArrayThenConvert_ok]
    constructor
    · rintro ⟨_, ⟨_, rfl, hs⟩, ⟨_, _, _⟩, ht, h⟩; cases h
      obtain ⟨hp, hu, ho⟩ := (payloadTail_ok ..).mp ht; exact ⟨_, _, _, _, rfl, hp, hu, ho, hs⟩
    · rintro ⟨_, _, _, _, h, hp, hu, ho, hs⟩; cases h; exact ⟨_, ⟨_, rfl, hs⟩, _, (payloadTail_ok ..).mpr ⟨hp, hu, ho⟩, rfl⟩
  · next hne => simp only [typeError, reduceCtorEq, false_iff]; rintro ⟨_, _, _, _, h, _⟩; exact hne _ _ _ _ h

/-- COSE_recipient = [protected, unprotected, ciphertext bstr/nil] or the same plus [COSE_recipient…]. -/
theorem recipient_ok_iff (fuel : Nat) (v : Value) (p : ProtectedHeader) (u : Header) (ct : Option Bytes) (rcps : List CoseRecipient) :
    CoseRecipient.fromValue (fuel + 1) v = .ok (.mk p u ct rcps) ↔
      (∃ x0 x1 x2, v = .array [x0, x1, x2] ∧ phFromBstr x0 = .ok p ∧ hdrFromValue x1 = .ok u ∧ optBytes x2 = .ok ct ∧ rcps = []) ∨
      (∃ x0 x1 x2 rs, v = .array [x0, x1, x2, .array rs] ∧ phFromBstr x0 = .ok p ∧ hdrFromValue x1 = .ok u ∧ optBytes x2 = .ok ct ∧
        mapRes (CoseRecipient.fromValue fuel) rs = .ok rcps) := by
  rw [recipient_eq]; split
  · simp only [Res.bind_eq_ok]
    constructor
    · rintro ⟨⟨_, _, _⟩, ht, h⟩; cases h
      obtain ⟨hp, hu, ho⟩ := (payloadTail_ok ..).mp ht; exact .inl ⟨_, _, _, rfl, hp, hu, ho, rfl⟩
    · rintro (⟨_, _, _, h, hp, hu, ho, rfl⟩ | ⟨_, _, _, _, h, _⟩)
      · cases h; exact ⟨_, (payloadTail_ok ..).mpr ⟨hp, hu, ho⟩, rfl⟩
      · cases h
  · simp only [Res.bind_eq_ok, tryAsArrayThenConvert_ok]
    constructor
    · rintro ⟨_, ⟨_, rfl, hs⟩, ⟨_, _, _⟩, ht, h⟩; cases h
      obtain ⟨hp, hu, ho⟩ := (payloadTail_ok ..).mp ht; exact .inr ⟨_, _, _, _, rfl, hp, hu, ho, hs⟩
    · rintro (⟨_, _, _, h, _⟩ | ⟨_, _, _, _, h, hp, hu, ho, hs⟩)
      · cases h
      · cases h; exact ⟨_, ⟨_, rfl, hs⟩, _, (payloadTail_ok ..).mpr ⟨hp, hu, ho⟩, rfl⟩
  · next h3 h4 =>
    simp only [typeError, reduceCtorEq, false_iff]
    rintro (⟨_, _, _, h, _⟩ | ⟨_, _, _, _, h, _⟩)
    · exact h3 _ _ _ h
    · exact h4 _ _ _ _ h

/-- the protected slot: a byte string that is empty (default header) or is exactly one encoded header map;
    the bytes are stored as received. -/
theorem protected_ok_iff (fuel d : Nat) (x : Value) (p : ProtectedHeader) :
    ProtectedHeader.fromBstr (fuel + 1) d x = .ok p ↔
      ∃ data, x = .bytes data ∧
        ((data = [] ∧ p = .mk (some []) Header.default) ∨
         (data ≠ [] ∧ ∃ v h, readToValue data = .ok v ∧ Header.fromValue fuel d v = .ok h ∧ p = .mk (some data) h)) := by
  rw [protected_eq]; split
  · next data =>
    constructor
    · intro h
      refine ⟨data, rfl, ?_⟩
      split at h
      · next he => cases h; cases List.isEmpty_iff.mp he; exact .inl ⟨rfl, rfl⟩
      · next he =>
        obtain ⟨v, hv, h⟩ := Res.bind_eq_ok.mp h; obtain ⟨hd, hh, h⟩ := Res.bind_eq_ok.mp h; cases h
        exact .inr ⟨fun e => he (by simp [e]), v, hd, hv, hh, rfl⟩
    · rintro ⟨_, e, h⟩; cases e
      rcases h with ⟨rfl, rfl⟩ | ⟨hne, v, h, hv, hh, rfl⟩
      · rfl
      · rw [if_neg (by simpa using hne)]; exact Res.bind_eq_ok.mpr ⟨v, hv, Res.bind_eq_ok.mpr ⟨h, hh, rfl⟩⟩
  · next hne => simp only [typeError, reduceCtorEq, false_iff]; rintro ⟨_, h, _⟩; exact hne _ h

/-- SuppPubInfo = [keyDataLength uint (a `u64`), protected bstr] or the same plus [other bstr]. -/
theorem supp_ok_iff (v : Value) (s : SuppPubInfo) : SuppPubInfo.fromValue v = .ok s ↔
    ∃ x1, v = .array (.int s.keyDataLength :: x1 :: s.other.toList.map .bytes) ∧ phFromBstr x1 = .ok s.protected_ ∧
      0 ≤ s.keyDataLength ∧ s.keyDataLength ≤ u64Max := by
  obtain ⟨len, prot, other⟩ := s
  rw [supp_eq]; split
  · simp only [Res.bind_eq_ok, tryAsInteger_ok, narrowU64_ok, Res.pure_eq, Res.ok.injEq, SuppPubInfo.mk.injEq]
    constructor
    · rintro ⟨_, hp, _, rfl, _, ⟨hr, rfl⟩, rfl, rfl, rfl⟩; exact ⟨_, rfl, hp, hr⟩
    · rintro ⟨_, hv, hp, hr⟩; cases other <;> cases hv; exact ⟨_, hp, _, rfl, _, ⟨hr, rfl⟩, rfl, rfl, rfl⟩
  · simp only [Res.bind_eq_ok, tryAsBytes_ok, tryAsInteger_ok, narrowU64_ok, Res.pure_eq, Res.ok.injEq, SuppPubInfo.mk.injEq]
    constructor
    · rintro ⟨_, rfl, _, hp, _, rfl, _, ⟨hr, rfl⟩, rfl, rfl, rfl⟩; exact ⟨_, rfl, hp, hr⟩
    · rintro ⟨_, hv, hp, hr⟩; cases other <;> cases hv; exact ⟨_, rfl, _, hp, _, rfl, _, ⟨hr, rfl⟩, rfl, rfl, rfl⟩
  · next h2 h3 =>
    simp only [typeError, reduceCtorEq, false_iff]
    rintro ⟨_, hv, _⟩; cases other
    · exact h2 _ _ hv
    · exact h3 _ _ _ hv

end Coset
