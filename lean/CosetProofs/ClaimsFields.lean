/-
  `claimDispatch` arm by arm, as for headers (HeaderFields.lean), and the fold of it claim by claim: what an accepted claims set holds
  (`ClaimsOf`, `fold_claimsOf`; `timestamp` says what its three times accept), hence the ⇒ half of C18 for claims sets
  (`claims_accepted_is_wellformed`), and the converse (`claimsFold_accepts`).  The statements of C18 that Roundtrip/Claims.lean is built
  on are here for that reason, in namespace `Props.C18`; the rest of C18 is Props/C18.lean.
-/
import CosetProofs.ClaimsLoop
import CosetProofs.FieldFold
namespace Coset

/-- `Spec.lookupL` for claim names. -/
def lookupN (n : RegLabelPriv) (ps : List (RegLabelPriv × Value)) : Option Value := (ps.find? (fun p => p.1 = n)).map (·.2)

/-- the seven typed claims (RFC 8392 §3.1: iss 1, sub 2, aud 3, exp 4, nbf 5, iat 6, cti 7). -/
def typedClaims : List RegLabelPriv := [cISS, cSUB, cAUD, cEXP, cNBF, cIAT, cCTI]

theorem typed_claims_values : [Gen.cwt_ISS_idx, Gen.cwt_SUB_idx, Gen.cwt_AUD_idx, Gen.cwt_EXP_idx, Gen.cwt_NBF_idx, Gen.cwt_IAT_idx, Gen.cwt_CTI_idx].map
    Reg.cwtClaimName.toI64 = [1, 2, 3, 4, 5, 6, 7] := by decide

theorem typedClaims_nodup : typedClaims.Nodup := by decide

section
variable (v : Value) (c : ClaimsSet)

theorem claimDispatch_iss : claimDispatch cISS v c = (tryAsString v).map fun t => { c with issuer := some t } := by
  simp +decide only [claimDispatch, ↓reduceIte]; cases tryAsString v <;> rfl
theorem claimDispatch_sub : claimDispatch cSUB v c = (tryAsString v).map fun t => { c with subject := some t } := by
  simp +decide only [claimDispatch, ↓reduceIte]; cases tryAsString v <;> rfl
theorem claimDispatch_aud : claimDispatch cAUD v c = (tryAsString v).map fun t => { c with audience := some t } := by
  simp +decide only [claimDispatch, ↓reduceIte]; cases tryAsString v <;> rfl
theorem claimDispatch_exp : claimDispatch cEXP v c = (Timestamp.fromValue v).map fun t => { c with expirationTime := some t } := by
  simp +decide only [claimDispatch, ↓reduceIte]; cases Timestamp.fromValue v <;> rfl
theorem claimDispatch_nbf : claimDispatch cNBF v c = (Timestamp.fromValue v).map fun t => { c with notBefore := some t } := by
  simp +decide only [claimDispatch, ↓reduceIte]; cases Timestamp.fromValue v <;> rfl
theorem claimDispatch_iat : claimDispatch cIAT v c = (Timestamp.fromValue v).map fun t => { c with issuedAt := some t } := by
  simp +decide only [claimDispatch, ↓reduceIte]; cases Timestamp.fromValue v <;> rfl
theorem claimDispatch_cti : claimDispatch cCTI v c = (tryAsBytes v).map fun b => { c with cwtId := some b } := by
  simp +decide only [claimDispatch, ↓reduceIte]; cases tryAsBytes v <;> rfl

end

theorem claimDispatch_other (n : RegLabelPriv) (v : Value) (c : ClaimsSet) (hn : n ∉ typedClaims) :
    claimDispatch n v c = .ok { c with rest := c.rest ++ [(n, v)] } := by
  simp only [typedClaims, List.mem_cons, List.not_mem_nil, or_false, not_or] at hn
  simp only [claimDispatch, hn, if_false]

structure ClaimFrame (n : RegLabelPriv) (v : Value) (c c1 : ClaimsSet) : Prop where
  issuer : n ≠ cISS → c1.issuer = c.issuer
  subject : n ≠ cSUB → c1.subject = c.subject
  audience : n ≠ cAUD → c1.audience = c.audience
  expirationTime : n ≠ cEXP → c1.expirationTime = c.expirationTime
  notBefore : n ≠ cNBF → c1.notBefore = c.notBefore
  issuedAt : n ≠ cIAT → c1.issuedAt = c.issuedAt
  cwtId : n ≠ cCTI → c1.cwtId = c.cwtId
  rest : c1.rest = c.rest ++ if n ∉ typedClaims then [(n, v)] else []

theorem claimDispatch_frame (n : RegLabelPriv) (v : Value) (c c1 : ClaimsSet) (hd : claimDispatch n v c = .ok c1) : ClaimFrame n v c c1 := by
  by_cases hn : n ∈ typedClaims
  · simp only [typedClaims, List.mem_cons, List.not_mem_nil, or_false] at hn
    rcases hn with rfl | rfl | rfl | rfl | rfl | rfl | rfl
    · rw [claimDispatch_iss] at hd; obtain ⟨x, -, rfl⟩ := Res.map_eq_ok.mp hd; constructor <;> simp [typedClaims]
    · rw [claimDispatch_sub] at hd; obtain ⟨x, -, rfl⟩ := Res.map_eq_ok.mp hd; constructor <;> simp [typedClaims]
    · rw [claimDispatch_aud] at hd; obtain ⟨x, -, rfl⟩ := Res.map_eq_ok.mp hd; constructor <;> simp [typedClaims]
    · rw [claimDispatch_exp] at hd; obtain ⟨x, -, rfl⟩ := Res.map_eq_ok.mp hd; constructor <;> simp [typedClaims]
    · rw [claimDispatch_nbf] at hd; obtain ⟨x, -, rfl⟩ := Res.map_eq_ok.mp hd; constructor <;> simp [typedClaims]
    · rw [claimDispatch_iat] at hd; obtain ⟨x, -, rfl⟩ := Res.map_eq_ok.mp hd; constructor <;> simp [typedClaims]
    · rw [claimDispatch_cti] at hd; obtain ⟨x, -, rfl⟩ := Res.map_eq_ok.mp hd; constructor <;> simp [typedClaims]
  · rw [claimDispatch_other n v c hn] at hd; cases hd
    simp only [typedClaims, List.mem_cons, List.not_mem_nil, or_false, not_or] at hn
    constructor <;> simp [typedClaims, hn]

namespace Props.C18

structure ClaimsOf (ps : List (RegLabelPriv × Value)) (c : ClaimsSet) : Prop where
  issuer : match lookupN cISS ps with | some v => ∃ t, v = .text t ∧ c.issuer = some t | none => c.issuer = none
  subject : match lookupN cSUB ps with | some v => ∃ t, v = .text t ∧ c.subject = some t | none => c.subject = none
  audience : match lookupN cAUD ps with | some v => ∃ t, v = .text t ∧ c.audience = some t | none => c.audience = none
  expirationTime : match lookupN cEXP ps with
    | some v => ∃ t, Timestamp.fromValue v = .ok t ∧ c.expirationTime = some t | none => c.expirationTime = none
  notBefore : match lookupN cNBF ps with
    | some v => ∃ t, Timestamp.fromValue v = .ok t ∧ c.notBefore = some t | none => c.notBefore = none
  issuedAt : match lookupN cIAT ps with
    | some v => ∃ t, Timestamp.fromValue v = .ok t ∧ c.issuedAt = some t | none => c.issuedAt = none
  cwtId : match lookupN cCTI ps with | some v => ∃ b, v = .bytes b ∧ c.cwtId = some b | none => c.cwtId = none
  rest : c.rest = ps.filter (fun p => p.1 ∉ typedClaims)

/-- timestamps: an integer gives whole seconds exactly (or out of range), a float the same bits; everything else is rejected. -/
theorem timestamp (v : Value) (t : Timestamp) : Timestamp.fromValue v = .ok t ↔
    ((∃ n, v = .int n ∧ i64Min ≤ n ∧ n ≤ i64Max ∧ t = .wholeSeconds n) ∨ (∃ b, v = .float b ∧ t = .fractionalSeconds b)) := by
  cases v with
  | int i =>
    have hm : Timestamp.fromValue (.int i) = (narrowI64 i).map .wholeSeconds := by
      simp only [Timestamp.fromValue]; cases narrowI64 i <;> rfl
    simp [hm, narrowI64_ok, and_assoc, eq_comm]
  | float b => simp [Timestamp.fromValue, eq_comm]
  | _ => simp [Timestamp.fromValue, typeError]

theorem fold_claimsOf (ps : List (RegLabelPriv × Value)) (c : ClaimsSet) (hnd : (ps.map (·.1)).Nodup)
    (hf : foldRes claimStep ps ClaimsSet.default = .ok c) : ClaimsOf ps c := by
  have fr := fun n v c c1 (hs : claimStep c (n, v) = .ok c1) => claimDispatch_frame n v c c1 hs
  have text : ∀ (v : Value) {f : Bytes → ClaimsSet} {c1}, (tryAsString v).map f = .ok c1 → ∃ t, v = .text t ∧ f t = c1 :=
    fun v _ _ h => let ⟨t, ht, e⟩ := Res.map_eq_ok.mp h; ⟨t, (tryAsString_ok v t).mp ht, e⟩
  refine ⟨?_, ?_, ?_, ?_, ?_, ?_, ?_, ?_⟩
  · refine fold_lookup _ ClaimsSet.issuer cISS (fun v _ x => ∃ t, v = .text t ∧ x = some t)
      (fun n v c c1 hn hs => (fr n v c c1 hs).issuer hn) (fun v c c1 hs => ?_) ps _ c hnd hf
    obtain ⟨t, ht, rfl⟩ := text v ((claimDispatch_iss v c).symm.trans hs); exact ⟨t, ht, rfl⟩
  · refine fold_lookup _ ClaimsSet.subject cSUB (fun v _ x => ∃ t, v = .text t ∧ x = some t)
      (fun n v c c1 hn hs => (fr n v c c1 hs).subject hn) (fun v c c1 hs => ?_) ps _ c hnd hf
    obtain ⟨t, ht, rfl⟩ := text v ((claimDispatch_sub v c).symm.trans hs); exact ⟨t, ht, rfl⟩
  · refine fold_lookup _ ClaimsSet.audience cAUD (fun v _ x => ∃ t, v = .text t ∧ x = some t)
      (fun n v c c1 hn hs => (fr n v c c1 hs).audience hn) (fun v c c1 hs => ?_) ps _ c hnd hf
    obtain ⟨t, ht, rfl⟩ := text v ((claimDispatch_aud v c).symm.trans hs); exact ⟨t, ht, rfl⟩
  · refine fold_lookup _ ClaimsSet.expirationTime cEXP (fun v _ x => ∃ t, Timestamp.fromValue v = .ok t ∧ x = some t)
      (fun n v c c1 hn hs => (fr n v c c1 hs).expirationTime hn) (fun v c c1 hs => ?_) ps _ c hnd hf
    obtain ⟨t, ht, rfl⟩ := Res.map_eq_ok.mp ((claimDispatch_exp v c).symm.trans hs); exact ⟨t, ht, rfl⟩
  · refine fold_lookup _ ClaimsSet.notBefore cNBF (fun v _ x => ∃ t, Timestamp.fromValue v = .ok t ∧ x = some t)
      (fun n v c c1 hn hs => (fr n v c c1 hs).notBefore hn) (fun v c c1 hs => ?_) ps _ c hnd hf
    obtain ⟨t, ht, rfl⟩ := Res.map_eq_ok.mp ((claimDispatch_nbf v c).symm.trans hs); exact ⟨t, ht, rfl⟩
  · refine fold_lookup _ ClaimsSet.issuedAt cIAT (fun v _ x => ∃ t, Timestamp.fromValue v = .ok t ∧ x = some t)
      (fun n v c c1 hn hs => (fr n v c c1 hs).issuedAt hn) (fun v c c1 hs => ?_) ps _ c hnd hf
    obtain ⟨t, ht, rfl⟩ := Res.map_eq_ok.mp ((claimDispatch_iat v c).symm.trans hs); exact ⟨t, ht, rfl⟩
  · refine fold_lookup _ ClaimsSet.cwtId cCTI (fun v _ x => ∃ b, v = .bytes b ∧ x = some b)
      (fun n v c c1 hn hs => (fr n v c c1 hs).cwtId hn) (fun v c c1 hs => ?_) ps _ c hnd hf
    obtain ⟨b, hb, rfl⟩ := Res.map_eq_ok.mp ((claimDispatch_cti v c).symm.trans hs); exact ⟨b, (tryAsBytes_ok v b).mp hb, rfl⟩
  · simpa [ClaimsSet.default] using
      fold_rest _ ClaimsSet.rest typedClaims (fun n v c c1 hs => (fr n v c c1 hs).rest) ps _ c hf

/-- C18 (claims, ⇒): an accepted claims set is a map whose keys are registered / private-use integers or text, pairwise distinct,
    with issuer/subject/audience text, the three times integers in range or floats, CWT id a byte string; every field equals its
    wire value and other claims are kept in order. -/
theorem claims_accepted_is_wellformed (v : Value) (c : ClaimsSet) (hok : ClaimsSet.fromValue v = .ok c) :
    ∃ m ns, v = .map m ∧ mapRes (RegLabelPriv.fromValue Reg.cwtClaimName) (m.map (·.1)) = .ok ns ∧ ns.Nodup ∧
      ClaimsOf (ns.zip (m.map (·.2))) c := by
  cases v with
  | map m =>
    obtain ⟨ns, hns, hnd, hfold⟩ := (claimsLoop_ok_iff m _ c).mp hok
    exact ⟨m, ns, rfl, hns, hnd, fold_claimsOf _ c (zip_nodup_of_mapRes hns hnd) hfold⟩
  | _ => simp [ClaimsSet.fromValue, typeError] at hok

/-- non-vacuity: a claims set with an issuer, an expiry time and one private-use claim is accepted. -/
example : (fromSlice ClaimsSet.fromValue [0xa3, 0x01, 0x61, 0x69, 0x04, 0x1a, 0x65, 0x53, 0xf1, 0x00, 0x3a, 0x00, 0x01, 0x00, 0x00, 0xf6]).isOk = true := by decide +kernel

/-- the type rule for one claim (RFC 8392 §3.1). -/
structure ClaimOk (n : RegLabelPriv) (v : Value) : Prop where
  text : (n = cISS ∨ n = cSUB ∨ n = cAUD) → ∃ t, v = .text t
  time : (n = cEXP ∨ n = cNBF ∨ n = cIAT) → ∃ t, Timestamp.fromValue v = .ok t
  cti : n = cCTI → ∃ b, v = .bytes b

theorem claimDispatch_accepts (n : RegLabelPriv) (v : Value) (c : ClaimsSet) (he : ClaimOk n v) : ∃ c1, claimDispatch n v c = .ok c1 := by
  by_cases hn : n ∈ typedClaims
  · simp only [typedClaims, List.mem_cons, List.not_mem_nil, or_false] at hn
    rcases hn with rfl | rfl | rfl | rfl | rfl | rfl | rfl
    · obtain ⟨t, rfl⟩ := he.text (.inl rfl); exact ⟨_, claimDispatch_iss ..⟩
    · obtain ⟨t, rfl⟩ := he.text (.inr (.inl rfl)); exact ⟨_, claimDispatch_sub ..⟩
    · obtain ⟨t, rfl⟩ := he.text (.inr (.inr rfl)); exact ⟨_, claimDispatch_aud ..⟩
    · obtain ⟨t, ht⟩ := he.time (.inl rfl); exact ⟨_, (claimDispatch_exp ..).trans (Res.map_ok_of ht)⟩
    · obtain ⟨t, ht⟩ := he.time (.inr (.inl rfl)); exact ⟨_, (claimDispatch_nbf ..).trans (Res.map_ok_of ht)⟩
    · obtain ⟨t, ht⟩ := he.time (.inr (.inr rfl)); exact ⟨_, (claimDispatch_iat ..).trans (Res.map_ok_of ht)⟩
    · obtain ⟨b, rfl⟩ := he.cti rfl; exact ⟨_, claimDispatch_cti ..⟩
  · exact ⟨_, claimDispatch_other n v c hn⟩

theorem claimsFold_accepts (ps : List (RegLabelPriv × Value)) (c0 : ClaimsSet) (hall : ∀ p ∈ ps, ClaimOk p.1 p.2) :
    ∃ c, foldRes claimStep ps c0 = .ok c :=
  foldRes_total claimStep (fun _ ps => ∀ p ∈ ps, ClaimOk p.1 p.2)
    (fun c p _ h => (claimDispatch_accepts p.1 p.2 c (h p (by simp))).imp fun _ h1 => ⟨h1, fun q hq => h q (by simp [hq])⟩) ps c0 hall

end Props.C18
end Coset
