/-
  Orders on byte strings.  `lexCmp` is core's lexicographic `compare`, so it and the length-first order built on it are lawful
  comparisons in core's sense (`Std.TransCmp`, `Std.LawfulEqCmp`).
-/
import CosetModel.Label
namespace Coset
open Std

/-! ### what core leaves unsaid about a lawful comparison -/
section
variable {α : Type} {cmp : α → α → Ordering}

theorem isLE_total [OrientedCmp cmp] (a b : α) : (cmp a b).isLE || (cmp b a).isLE := by
  rw [OrientedCmp.eq_swap (cmp := cmp) (a := b)]; cases cmp a b <;> rfl

theorem lt_or_eq_or_gt [OrientedCmp cmp] (a b : α) : cmp a b = .lt ∨ cmp a b = .eq ∨ cmp b a = .lt := by
  rw [OrientedCmp.eq_swap (cmp := cmp) (a := b)]; cases cmp a b <;> simp

theorem TransCmp.pullback {β : Type} [TransCmp cmp] (f : β → α) : TransCmp fun x y => cmp (f x) (f y) where
  eq_swap := OrientedCmp.eq_swap (cmp := cmp)
  isLE_trans := TransCmp.isLE_trans (cmp := cmp)

theorem lt_of_isLE_of_ne {o : Ordering} (h : o.isLE) (hne : o ≠ .eq) : o = .lt := by
  cases o <;> simp_all

/-- `compare` on `Nat` and on `Int` is read off `<` and `=`. -/
theorem compareOfLessAndEq_congr {α β : Type} [LT α] [LT β] [DecidableLT α] [DecidableLT β] [DecidableEq α] [DecidableEq β]
    {a b : α} {c d : β} (hlt : a < b ↔ c < d) (heq : a = b ↔ c = d) : compareOfLessAndEq a b = compareOfLessAndEq c d := by
  simp only [compareOfLessAndEq, hlt, heq]
end

/-- `Ord for [u8]` as the model writes it is core's lexicographic `compare` on lists. -/
theorem lexCmp_eq : lexCmp = compare := by
  funext a b
  induction a generalizing b with
  | nil => cases b <;> rfl
  | cons x xs ih =>
    cases b with
    | nil => rfl
    | cons y ys =>
      rw [lexCmp, List.compare_cons_cons, ← ih]
      show _ = (compareOfLessAndEq x y).then _
      unfold compareOfLessAndEq
      by_cases h1 : x < y
      · rw [if_pos h1, if_pos h1]; rfl
      · rw [if_neg h1, if_neg h1]
        by_cases h2 : y < x
        · rw [if_pos h2, if_neg (fun e => by subst e; exact h1 h2)]; rfl
        · rw [if_neg h2, if_pos (UInt8.le_antisymm (UInt8.not_lt.mp h2) (UInt8.not_lt.mp h1))]; rfl

instance : TransCmp lexCmp := lexCmp_eq ▸ inferInstance
instance : LawfulEqCmp lexCmp := lexCmp_eq ▸ inferInstance

/-- `textCmp` is `compareLex (compareOn List.length) lexCmp` written out. -/
instance : TransCmp textCmp := inferInstanceAs (TransCmp (compareLex (compareOn List.length) lexCmp))
instance : LawfulEqCmp textCmp where
  eq_of_compare h := LawfulEqCmp.eq_of_compare (cmp := lexCmp) (Ordering.then_eq_eq.mp h).2

theorem lexCmp_append_left (p a b : Bytes) : lexCmp (p ++ a) (p ++ b) = lexCmp a b := by
  induction p with
  | nil => rfl
  | cons x xs ih => simp [lexCmp, ih]

theorem lexCmp_append_of_lt (a b x y : Bytes) (hl : a.length = b.length) (h : lexCmp a b = .lt) : lexCmp (a ++ x) (b ++ y) = .lt := by
  induction a generalizing b with
  | nil => cases b <;> simp_all [lexCmp]
  | cons p ps ih =>
    cases b with
    | nil => simp at hl
    | cons q qs =>
      simp only [List.cons_append, lexCmp] at h ⊢
      by_cases h1 : p < q
      · simp [h1]
      · by_cases h2 : q < p
        · simp [h1, h2] at h
        · simp only [h1, h2, if_false] at h ⊢
          exact ih qs (by simpa using hl) h

theorem lexCmp_ofNat_lt {p q : Nat} (h : p < q) (hq : q < 256) (a b : Bytes) : lexCmp (UInt8.ofNat p :: a) (UInt8.ofNat q :: b) = .lt := by
  have : UInt8.ofNat p < UInt8.ofNat q := by
    rw [UInt8.lt_iff_toNat_lt, UInt8.toNat_ofNat', UInt8.toNat_ofNat', Nat.mod_eq_of_lt hq, Nat.mod_eq_of_lt (Nat.lt_trans h hq)]; exact h
  rw [lexCmp, if_pos this]

end Coset
