/-
  Every decoding entry point, on every input, answers with a value or one of the crate's own errors (`Safe`): it never panics
  (every modelled panic site is dominated by its guard) and never reports the model-only outcome "out of fuel" (the fuel arguments,
  there for Lean's termination checker, are invisible at the API).  One walk through the decoders serves both.  The same walk through
  the encoders of the header family (`to_cbor_value` of headers, signatures, protected headers: no panic site, no fuel) follows.
-/
import CosetProofs.Outcome
import CosetProofs.Shapes
import CosetProofs.Fuel
import CosetProofs.Cbor.FuelIrrelevant
import CosetProofs.HeaderLoop
import CosetProofs.ClaimsLoop
import CosetProofs.Roundtrip.SetOrder
namespace Coset
open Cbor

theorem readToValue_safe (bs : Bytes) : Safe (readToValue bs) := by
  unfold readToValue
  cases h : fromReader bs with
  | ok vr => exact .ite (fun _ => .ok) fun _ => .err
  | err => exact .err
  | oof => exact absurd h (fromReader_no_oof bs)

theorem readToValue_no_oof (bs : Bytes) : readToValue bs ≠ .err .outOfFuel := (readToValue_safe bs).noOof

/- Below, a goal `Safe (f …)` is met by a term that follows the `?`s of `f`, one `Safe.bind` each (for the option see the head of Res.lean). -/
section
set_option smartUnfolding false

theorem label_safe (v : Value) : Safe (Label.fromValue v) := by
  cases v
  case int => exact (narrowI64_safe _).bind fun _ _ => .ok
  case text => exact .ok
  all_goals exact .typeError

theorem regLabel_safe (R : Registry) (v : Value) : Safe (RegLabel.fromValue R v) := by
  cases v
  case int =>
    refine (narrowI64_safe _).bind fun n _ => ?_
    cases R.fromI64 n
    · exact .err
    · exact .ok
  case text => exact .ok
  all_goals exact .typeError

theorem regLabelPriv_safe (R : Registry) (v : Value) : Safe (RegLabelPriv.fromValue R v) := by
  cases v
  case int =>
    refine (narrowI64_safe _).bind fun n _ => ?_
    cases R.fromI64 n
    · exact .ite (fun _ => .ok) fun _ => .err
    · exact .ok
  case text => exact .ok
  all_goals exact .typeError

theorem timestamp_safe (v : Value) : Safe (Timestamp.fromValue v) := by
  cases v
  case int => exact (narrowI64_safe _).bind fun _ _ => .ok
  case float => exact .ok
  all_goals exact .typeError

theorem tryAsArrayThenConvert_safe {α : Type} {f : Value → Res α} (v : Value) (hf : ∀ a, v = .array a → ∀ x ∈ a, Safe (f x)) :
    Safe (tryAsArrayThenConvert f v) := by
  cases v <;> first | exact .typeError | exact .mapRes (hf _ rfl)

theorem genLoop_safe {L σ : Type} {keyFrom : Value → Res L} {cmpL : L → L → Res Ordering} {step : σ → L × Value → Res σ}
    (hk : ∀ k, Safe (keyFrom k)) (hc : ∀ s l, Safe (setContains cmpL s l)) (hs : ∀ s lv, Safe (step s lv)) :
    ∀ m s seen, Safe (genLoop keyFrom cmpL step m s seen)
  | [], _, _ => .ok
  | (k, v) :: m, s, seen => by
    rw [genLoop]
    exact (hk k).bind fun l _ => (hc seen l).bind fun b _ => by
      cases b
      · exact (hs s (l, v)).bind fun _ _ => genLoop_safe hk hc hs m _ _
      · exact .err

theorem setContains_safe {α : Type} {cmp : α → α → Res Ordering} (hc : ∀ a b, ∃ o, cmp a b = .ok o) (s : List α) (x : α) :
    Safe (setContains cmp s x) := (setContains_total hc s x).elim fun _ h => h ▸ .ok

theorem setContains_label_safe (s : List Label) (l : Label) : Safe (setContains Label.cmp s l) := setContains_safe Label.cmp_ok s l

@[simp] theorem setContains_label_oof (s : List Label) (l : Label) : (setContains Label.cmp s l = .err .outOfFuel) = False :=
  eq_false (setContains_label_safe s l).noOof

theorem counterSigArm_safe {d : Nat} {sf : Value → Res CoseSignature} (hsf : d ≠ 0 → ∀ v, Safe (sf v)) (v : Value) :
    Safe (counterSigArm d sf v) :=
  (tryAsArray_safe v).bind fun a _ => .ite (fun _ => .err) fun he => .ite (fun _ => .err) fun hd =>
    (vindex_safe (List.length_pos_iff.mpr fun e => he (List.isEmpty_iff.mpr e))).bind fun x _ => by
      cases x
      case bytes => exact (hsf hd _).bind fun _ _ => .ok
      case array => exact .mapRes fun _ _ => hsf hd _
      all_goals exact .typeError

theorem headerDispatch_safe {d : Nat} {sf : Value → Res CoseSignature} (hsf : d ≠ 0 → ∀ v, Safe (sf v)) (l : Label) (v : Value) (h : Header) :
    Safe (headerDispatch d sf l v h) :=
  .ite (fun _ => (regLabelPriv_safe _ v).bind fun _ _ => .ok) fun _ =>
  .ite (fun _ => by
    cases v
    case array => exact .ite (fun _ => .err) fun _ => (Safe.mapRes fun _ _ => regLabel_safe _ _).bind fun _ _ => .ok
    all_goals exact .typeError) fun _ =>
  .ite (fun _ => (regLabel_safe _ v).bind fun ct _ => by
    cases ct
    case text => exact .ite (fun _ => .ok) fun _ => .err
    case assigned => exact .ok) fun _ =>
  .ite (fun _ => (tryAsNonemptyBytes_safe v).bind fun _ _ => .ok) fun _ =>
  .ite (fun _ => (tryAsNonemptyBytes_safe v).bind fun _ _ => .ok) fun _ =>
  .ite (fun _ => (tryAsNonemptyBytes_safe v).bind fun _ _ => .ok) fun _ =>
  .ite (fun _ => (counterSigArm_safe hsf v).bind fun _ _ => .ok) fun _ => .ok

theorem headerLoop_safe {d : Nat} {sf : Value → Res CoseSignature} (hsf : d ≠ 0 → ∀ v, Safe (sf v)) (m : List (Value × Value)) (h : Header)
    (seen : List Label) : Safe (headerLoop d sf m h seen) := by
  rw [headerLoop_eq_gen]
  exact genLoop_safe label_safe setContains_label_safe
    (fun h lv => (headerDispatch_safe hsf lv.1 lv.2 h).bind fun _ _ => .ite (fun _ => .err) fun _ => .ok) m h seen

theorem family_safe (d : Nat) :
    (∀ f, 3 * d + 1 ≤ f → ∀ v, Safe (Header.fromValue f d v)) ∧
    (∀ f, 3 * d + 2 ≤ f → ∀ v, Safe (ProtectedHeader.fromBstr f d v)) ∧
    (∀ f, 3 * d + 3 ≤ f → ∀ v, Safe (CoseSignature.fromValue f d v)) :=
  family_induction (H := fun f d => ∀ v, Safe (Header.fromValue f d v)) (P := fun f d => ∀ v, Safe (ProtectedHeader.fromBstr f d v))
    (S := fun f d => ∀ v, Safe (CoseSignature.fromValue f d v))
    (fun g d ih v => by
      rw [header_eq]; split
      · exact headerLoop_safe ih _ _ _
      · exact .typeError)
    (fun g d ih v => by
      rw [protected_eq]; split
      · exact .ite (fun _ => .ok) fun _ => (readToValue_safe _).bind fun x _ => (ih x).bind fun _ _ => .ok
      · exact .typeError)
    (fun g d ihH ihP v => by
      rw [signature_eq]; split
      · exact (tryAsBytes_safe _).bind fun _ _ => (ihH _).bind fun _ _ => (ihP _).bind fun _ _ => .ok
      · exact .typeError) d

theorem hdrFromValue_safe (v : Value) : Safe (hdrFromValue v) := (family_safe maxNest).1 _ (by unfold topFuel; omega) v
theorem phFromBstr_safe (v : Value) : Safe (phFromBstr v) := (family_safe maxNest).2.1 _ (by unfold topFuel; omega) v
theorem sigFromValue_safe (v : Value) : Safe (sigFromValue v) := (family_safe maxNest).2.2 _ (by unfold topFuel; omega) v

theorem protectedHeader_safe (v : Value) : Safe (ProtectedHeader.fromValue v) := (hdrFromValue_safe v).bind fun _ _ => .ok

theorem keyOpsLoop_safe : ∀ (a : List Value) (s : List RegLabel), Safe (keyOpsLoop a s)
  | [], _ => .ok
  | v :: vs, s => by
    rw [keyOpsLoop]
    exact (regLabel_safe _ v).bind fun op _ => by
      rcases setInsert_total (fun a b => ⟨_, RegLabel.cmp_ord Reg.keyOperation a b⟩) s op with ⟨r, hr⟩ | ⟨hr, _⟩ <;> rw [hr]
      · exact keyOpsLoop_safe vs _
      · exact .err

theorem keyDispatch_safe (l : Label) (v : Value) (k : CoseKey) : Safe (keyDispatch l v k) :=
  .ite (fun _ => (regLabel_safe _ v).bind fun _ _ => .ok) fun _ =>
  .ite (fun _ => (tryAsNonemptyBytes_safe v).bind fun _ _ => .ok) fun _ =>
  .ite (fun _ => (regLabelPriv_safe _ v).bind fun _ _ => .ok) fun _ =>
  .ite (fun _ => (tryAsArray_safe v).bind fun a _ => (keyOpsLoop_safe a _).bind fun _ _ => .ite (fun _ => .err) fun _ => .ok) fun _ =>
  .ite (fun _ => (tryAsNonemptyBytes_safe v).bind fun _ _ => .ok) fun _ => .ok

theorem key_safe (v : Value) : Safe (CoseKey.fromValue v) :=
  (tryAsMap_safe v).bind fun m _ => by
    rw [keyLoop_eq_gen]
    exact (genLoop_safe label_safe setContains_label_safe (fun k lv => keyDispatch_safe lv.1 lv.2 k) m _ _).bind fun _ _ =>
      .ite (fun _ => .err) fun _ => .ok

theorem keyset_safe (v : Value) : Safe (CoseKeySet.fromValue v) := tryAsArrayThenConvert_safe v fun _ _ _ _ => key_safe _

theorem claimDispatch_safe (n : RegLabelPriv) (v : Value) (c : ClaimsSet) : Safe (claimDispatch n v c) :=
  .ite (fun _ => (tryAsString_safe v).bind fun _ _ => .ok) fun _ =>
  .ite (fun _ => (tryAsString_safe v).bind fun _ _ => .ok) fun _ =>
  .ite (fun _ => (tryAsString_safe v).bind fun _ _ => .ok) fun _ =>
  .ite (fun _ => (timestamp_safe v).bind fun _ _ => .ok) fun _ =>
  .ite (fun _ => (timestamp_safe v).bind fun _ _ => .ok) fun _ =>
  .ite (fun _ => (timestamp_safe v).bind fun _ _ => .ok) fun _ =>
  .ite (fun _ => (tryAsBytes_safe v).bind fun _ _ => .ok) fun _ => .ok

theorem claims_safe (v : Value) : Safe (ClaimsSet.fromValue v) := by
  cases v
  case map =>
    rw [ClaimsSet.fromValue, claimsLoop_eq_gen]
    exact genLoop_safe (regLabelPriv_safe _) (setContains_safe (regPriv_cmp_ok Reg.cwtClaimName))
      (fun c nv => claimDispatch_safe nv.1 nv.2 c) _ _ _
  all_goals exact .typeError

theorem fromSlice_safe {α : Type} {conv : Value → Res α} (hc : ∀ v, Safe (conv v)) (bs : Bytes) : Safe (fromSlice conv bs) :=
  (readToValue_safe bs).bind fun v _ => hc v

theorem fromTaggedSlice_safe {α : Type} (tag : Nat) {conv : Value → Res α} (hc : ∀ v, Safe (conv v)) (bs : Bytes) :
    Safe (fromTaggedSlice tag conv bs) :=
  (readToValue_safe bs).bind fun v _ => (tryAsTag_safe v).bind fun (_, inner) _ => .ite (fun _ => .err) fun _ => hc inner

end

theorem payloadTail_safe (x0 x1 x2 : Value) : Safe (payloadTail [x0, x1, x2] 2 1 0) := by
  rw [payloadTail_eq, headersTail_eq]
  exact (optBytes_safe x2).bind fun _ _ => ((hdrFromValue_safe x1).bind fun _ _ => (phFromBstr_safe x0).bind fun _ _ => .ok).bind fun _ _ => .ok

theorem sign1_safe (v : Value) : Safe (CoseSign1.fromValue v) := by
  rw [sign1_eq]; split
  · exact (tryAsBytes_safe _).bind fun _ _ => (payloadTail_safe ..).bind fun _ _ => .ok
  · exact .typeError

theorem mac0_safe (v : Value) : Safe (CoseMac0.fromValue v) := by
  rw [mac0_eq]; split
  · exact (tryAsBytes_safe _).bind fun _ _ => (payloadTail_safe ..).bind fun _ _ => .ok
  · exact .typeError

theorem encrypt0_safe (v : Value) : Safe (CoseEncrypt0.fromValue v) := by
  rw [encrypt0_eq]; split
  · exact (payloadTail_safe ..).bind fun _ _ => .ok
  · exact .typeError

theorem sign_safe (v : Value) : Safe (CoseSign.fromValue v) := by
  rw [sign_eq]; split
  · exact (tryAsArrayThenConvert_safe _ fun _ _ _ _ => (sigFromValue_safe _).mapErr).bind fun _ _ => (optBytes_safe _).bind fun _ _ =>
      (hdrFromValue_safe _).bind fun _ _ => (phFromBstr_safe _).bind fun _ _ => .ok
  · exact .typeError

/-- recipients: the fuel the entry point supplies (size of the value + 1) is never exhausted. -/
theorem recipient_safe : ∀ (f : Nat) (v : Value), v.size < f → Safe (CoseRecipient.fromValue f v)
  | 0, _, h => by omega
  | f + 1, v, hv => by
    rw [recipient_eq]; split
    · exact (payloadTail_safe ..).bind fun _ _ => .ok
    · next x0 x1 x2 x3 =>
      refine (tryAsArrayThenConvert_safe x3 fun a ha y hy => recipient_safe f y ?_).bind fun _ _ => (payloadTail_safe ..).bind fun _ _ => .ok
      have := sizeL_mem _ _ hy; subst ha; rw [Value.size] at hv; simp only [Value.sizeL, Value.size] at hv; omega
    · exact .typeError

theorem rcpFromValue_safe (v : Value) : Safe (rcpFromValue v) := recipient_safe _ v (by omega)

theorem encrypt_safe (v : Value) : Safe (CoseEncrypt.fromValue v) := by
  rw [encrypt_eq]; split
  · exact (tryAsArrayThenConvert_safe _ fun _ _ _ _ => rcpFromValue_safe _).bind fun _ _ => (payloadTail_safe ..).bind fun _ _ => .ok
  · exact .typeError

theorem mac_safe (v : Value) : Safe (CoseMac.fromValue v) := by
  rw [mac_eq]; split
  · exact (tryAsArrayThenConvert_safe _ fun _ _ _ _ => rcpFromValue_safe _).bind fun _ _ => (tryAsBytes_safe _).bind fun _ _ =>
      (payloadTail_safe ..).bind fun _ _ => .ok
  · exact .typeError

theorem party_safe (v : Value) : Safe (PartyInfo.fromValue v) := by
  rw [party_eq]; split
  · next x0 x1 x2 =>
    refine (optBytes_safe x2).bind fun _ _ => Safe.bind ?_ fun _ _ => (optBytes_safe x0).bind fun _ _ => .ok
    cases x1
    case int => exact (narrowI64_safe _).bind fun _ _ => .ok
    case null => exact .ok
    case bytes => exact .ok
    all_goals exact .typeError
  · exact .typeError

theorem supp_safe (v : Value) : Safe (SuppPubInfo.fromValue v) := by
  rw [supp_eq]; split
  · exact (phFromBstr_safe _).bind fun _ _ => (tryAsInteger_safe _).bind fun n _ => (narrowU64_safe n).bind fun _ _ => .ok
  · exact (tryAsBytes_safe _).bind fun _ _ => (phFromBstr_safe _).bind fun _ _ => (tryAsInteger_safe _).bind fun n _ =>
      (narrowU64_safe n).bind fun _ _ => .ok
  · exact .typeError

theorem kdf_safe (v : Value) : Safe (CoseKdfContext.fromValue v) := by
  rw [kdf_eq]; split
  · exact (Safe.mapRes fun _ _ => tryAsBytes_safe _).bind fun _ _ => (supp_safe _).bind fun _ _ => (party_safe _).bind fun _ _ =>
      (party_safe _).bind fun _ _ => (regLabelPriv_safe _ _).bind fun _ _ => .ok
  · exact .typeError

section
set_option smartUnfolding false

theorem restToPairs_safe : ∀ (rest : List (Label × Value)) (seen : List Label) (acc : List (Value × Value)), Safe (restToPairs rest seen acc)
  | [], _, _ => .ok
  | (l, v) :: rest, seen, acc => by
    rw [restToPairs]
    exact (setContains_label_safe seen l).bind fun b _ => by
      cases b
      · cases l <;> exact restToPairs_safe ..
      · exact .err

theorem headerFinish_safe (m : List (Value × Value)) (rest : List (Label × Value)) : Safe (headerFinish m rest) :=
  (restToPairs_safe ..).bind fun _ _ => .ok

mutual
theorem Header.toValue_safe : ∀ (h : Header), Safe (Header.toValue h)
  | .mk alg crit ct kid iv piv cs rest => by
    match cs with
    | [] => rw [Header.toValue]; exact headerFinish_safe ..
    | [s] => rw [Header.toValue]; exact (CoseSignature.toValue_safe s).bind fun _ _ => headerFinish_safe ..
    | s :: s2 :: ss => rw [Header.toValue]; exact (sigsToValues_safe (s :: s2 :: ss)).bind fun _ _ => headerFinish_safe ..
theorem CoseSignature.toValue_safe : ∀ (s : CoseSignature), Safe (CoseSignature.toValue s)
  | .mk prot unprot sig => by
    rw [CoseSignature.toValue]
    exact (ProtectedHeader.cborBstr_safe prot).bind fun _ _ => (Header.toValue_safe unprot).bind fun _ _ => .ok
theorem ProtectedHeader.cborBstr_safe : ∀ (ph : ProtectedHeader), Safe (ProtectedHeader.cborBstr ph)
  | .mk (some d) h => .ok
  | .mk none h => by
    rw [ProtectedHeader.cborBstr]; exact .ite (fun _ => .ok) fun _ => (Header.toValue_safe h).bind fun _ _ => .ok
theorem sigsToValues_safe : ∀ (ss : List CoseSignature), Safe (sigsToValues ss)
  | [] => .ok
  | s :: ss => by
    rw [sigsToValues]; exact (CoseSignature.toValue_safe s).bind fun _ _ => (sigsToValues_safe ss).bind fun _ _ => .ok
end

end

theorem sigsToValues_NP : ∀ (ss : List CoseSignature), NP (sigsToValues ss) := fun ss => (sigsToValues_safe ss).np

end Coset
