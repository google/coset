/-
  `Header::to_cbor_value` as one list of label/value entries (`entries`: the populated typed fields, the counter-signature entry, the
  other parameters), for every header; and `Header::from_cbor_value`'s loop run on such a list: it rebuilds the header field by field.
  `typedL` is a left-nested `++` of one optional entry per field, and what is proved of it goes field by field along that nesting
  (likewise `keyL`, `claimL`).
-/
import CosetProofs.Roundtrip.Labels
import CosetProofs.HeaderFields
import CosetProofs.Structures
namespace Coset
open Coset.Spec

/-- the label/value entries for the six simple typed fields, in emission order. -/
def typedL (alg : Option RegLabelPriv) (crit : List RegLabel) (ct : Option RegLabel) (kid iv piv : Bytes) : List (Label × Value) :=
  (alg.toList.map fun a => (Label.int 1, RegLabelPriv.value Reg.algorithm a)) ++
  (if !crit.isEmpty then [(Label.int 2, Value.array (crit.map (RegLabel.value Reg.headerParameter)))] else []) ++
  (ct.toList.map fun c => (Label.int 3, RegLabel.value Reg.coapContentFormat c)) ++
  (if !kid.isEmpty then [(Label.int 4, Value.bytes kid)] else []) ++
  (if !iv.isEmpty then [(Label.int 5, Value.bytes iv)] else []) ++
  (if !piv.isEmpty then [(Label.int 6, Value.bytes piv)] else [])

def pairsToValue (ps : List (Label × Value)) : List (Value × Value) := ps.map fun p => (labelValue p.1, p.2)

theorem fst_optEntry {κ α β : Type} (n : κ) (f : α → β) (o : Option α) :
    ((o.toList.map fun t => (n, f t)).map (·.1)).Sublist [n] := by cases o <;> simp

theorem fst_iteEntry {κ β : Type} (c : Bool) (n : κ) (v : β) :
    ((if c then [(n, v)] else []).map (·.1)).Sublist [n] := by cases c <;> simp

theorem pairsToValue_append (xs ys : List (Label × Value)) : pairsToValue (xs ++ ys) = pairsToValue xs ++ pairsToValue ys := List.map_append

theorem pairsToValue_cons (p : Label × Value) (ps : List (Label × Value)) :
    pairsToValue (p :: ps) = (labelValue p.1, p.2) :: pairsToValue ps := rfl

theorem pairsToValue_ite (c : Bool) (l : Label) (v : Value) :
    pairsToValue (if c then [(l, v)] else []) = if c then [(labelValue l, v)] else [] := by cases c <;> rfl

theorem pairsToValue_keys (E : List (Label × Value)) : (pairsToValue E).map (·.1) = (E.map (·.1)).map labelValue := by
  simp only [pairsToValue, List.map_map]; rfl

/-- the closing `seen` loop of the two map encoders, for every input.  The condition is `FreshG seen (rest.map (·.1))` (MapLoop),
    written out so that `if` decides it. -/
theorem restToPairs_eq (rest : List (Label × Value)) (seen : List Label) (acc : List (Value × Value)) :
    restToPairs rest seen acc =
      if (rest.map (·.1)).Nodup ∧ ∀ l ∈ rest.map (·.1), l ∉ seen then .ok (acc ++ pairsToValue rest) else .err .duplicateMapKey := by
  induction rest generalizing seen acc with
  | nil => simp [restToPairs, pairsToValue]
  | cons lv rest ih =>
    obtain ⟨l, v⟩ := lv
    have hc := freshG_cons seen l (rest.map (·.1))
    unfold FreshG at hc
    rw [restToPairs, setContains_label, Label.toValue_eq, List.map_cons]
    by_cases hl : l ∈ seen
    · rw [decide_eq_true hl, if_neg fun h => (hc.mp h).1 hl]
    · rw [decide_eq_false hl]
      show restToPairs rest _ _ = _
      rw [ih, List.append_assoc]
      exact ite_congr (propext ⟨fun h => hc.mpr ⟨hl, h⟩, fun h => (hc.mp h).2⟩) (fun _ => rfl) (fun _ => rfl)

theorem restToPairs_ok : ∀ (rest : List (Label × Value)) (seen : List Label) (acc : List (Value × Value)),
    (rest.map (·.1)).Nodup → (∀ l ∈ rest.map (·.1), l ∉ seen) → restToPairs rest seen acc = .ok (acc ++ pairsToValue rest) := by
  intro rest seen acc hnd hdis
  rw [restToPairs_eq, if_pos ⟨hnd, hdis⟩]

theorem headerFinish_eq (m : List (Value × Value)) (rest : List (Label × Value)) :
    headerFinish m rest =
      if (rest.map (·.1)).Nodup ∧ ∀ l ∈ rest.map (·.1), l ∉ typedSeen m then .ok (.map (m ++ pairsToValue rest)) else .err .duplicateMapKey := by
  rw [headerFinish, restToPairs_eq]
  by_cases h : (rest.map (·.1)).Nodup ∧ ∀ l ∈ rest.map (·.1), l ∉ typedSeen m
  · rw [if_pos h, if_pos h]
  · rw [if_neg h, if_neg h]

theorem typedSeen_pairs (E : List (Label × Value)) : ∀ l ∈ typedSeen (pairsToValue E), l ∈ E.map (·.1) := by
  intro l hl
  obtain ⟨p, hp, hpl⟩ := List.mem_filterMap.mp hl
  obtain ⟨⟨k, v⟩, hq, rfl⟩ := List.mem_map.mp hp
  cases k with
  | int i => cases hpl; exact List.mem_map.mpr ⟨_, hq, rfl⟩
  | text t => cases hpl

/-- `S`: any list holding the labels already emitted. -/
theorem headerFinish_ok (S : List Label) (E rest : List (Label × Value)) (hE : ∀ l ∈ E.map (·.1), l ∈ S)
    (hnd : (rest.map (·.1)).Nodup) (hns : ∀ l ∈ rest.map (·.1), l ∉ S) :
    headerFinish (pairsToValue E) rest = .ok (.map (pairsToValue (E ++ rest))) := by
  rw [headerFinish_eq, if_pos ⟨hnd, fun l hl hs => hns l hl (hE l (typedSeen_pairs E l hs))⟩, pairsToValue_append]

theorem headerFinish_inv {E rest : List (Label × Value)} {x : Value} (h : headerFinish (pairsToValue E) rest = .ok x) :
    x = .map (pairsToValue (E ++ rest)) := by
  rw [headerFinish_eq] at h
  split at h
  · rw [pairsToValue_append]; exact (Res.ok.inj h).symm
  · cases h

theorem ite_push {α : Type} (c : Prop) [Decidable c] (m : List α) (e : α) : (if c then m ++ [e] else m) = m ++ if c then [e] else [] := by
  split <;> simp

theorem headerTypedPairs_eq (alg crit ct kid iv piv) :
    headerTypedPairs alg crit ct kid iv piv = pairsToValue (typedL alg crit ct kid iv piv) := by
  have hc : Gen.header_ALG = 1 ∧ Gen.header_CRIT = 2 ∧ Gen.header_CONTENT_TYPE = 3 ∧ Gen.header_KID = 4 ∧ Gen.header_IV = 5 ∧
      Gen.header_PARTIAL_IV = 6 := by decide
  cases alg <;> cases ct <;>
    simp only [headerTypedPairs, typedL, pairsToValue, hc, ite_push, List.map_append, apply_ite (List.map _), List.map_cons, List.map_nil,
      labelValue, Option.toList, List.nil_append, List.append_nil]

/-- what the counter-signature list contributes to the map: nothing, one signature inline, or an array of them.  Written with the
    model's three-armed matches, as `Header.toValue` is; read through `csValue_single` / `csValue_many`. -/
def csValue : List CoseSignature → Res (Option Value)
  | [] => .ok none
  | [s] =>
    match CoseSignature.toValue s with
    | .ok v => .ok (some v)
    | .err e => .err e
    | .panic p => .panic p
  | s :: s2 :: ss =>
    match sigsToValues (s :: s2 :: ss) with
    | .ok vs => .ok (some (.array vs))
    | .err e => .err e
    | .panic p => .panic p

theorem csValue_single (s : CoseSignature) : csValue [s] = (CoseSignature.toValue s).map some := by
  rw [csValue]; cases CoseSignature.toValue s <;> rfl

theorem csValue_many (s s2 : CoseSignature) (ss : List CoseSignature) :
    csValue (s :: s2 :: ss) = (sigsToValues (s :: s2 :: ss)).map fun vs => some (.array vs) := by
  rw [csValue]; cases sigsToValues (s :: s2 :: ss) <;> rfl

def csL : Option Value → List (Label × Value)
  | none => []
  | some v => [(.int 7, v)]

/-- all entries of a header, in emission order. -/
def entries (alg : Option RegLabelPriv) (crit : List RegLabel) (ct : Option RegLabel) (kid iv piv : Bytes) (ov : Option Value) (rest : List (Label × Value)) : List (Label × Value) :=
  typedL alg crit ct kid iv piv ++ csL ov ++ rest

theorem typedL_labels (alg crit ct kid iv piv) : List.Sublist ((typedL alg crit ct kid iv piv).map (·.1)) [.int 1, .int 2, .int 3, .int 4, .int 5, .int 6] := by
  simp only [typedL, List.map_append]
  exact (((((fst_optEntry ..).append (fst_iteEntry ..)).append (fst_optEntry ..)).append (fst_iteEntry ..)).append (fst_iteEntry ..)).append
    (fst_iteEntry ..)

theorem csL_labels (ov : Option Value) : ((csL ov).map (·.1)).Sublist [.int 7] := by cases ov <;> simp [csL]

theorem typedL_csL_labels (alg crit ct kid iv piv) (ov : Option Value) :
    ((typedL alg crit ct kid iv piv ++ csL ov).map (·.1)).Sublist stdLabels := by
  rw [List.map_append]; exact (typedL_labels ..).append (csL_labels ov)

/-- `Header::to_cbor_value` in one line, for every header. -/
theorem Header.toValue_eq_finish (alg crit ct kid iv piv cs rest) :
    Header.toValue (.mk alg crit ct kid iv piv cs rest) =
      csValue cs >>= fun ov => headerFinish (pairsToValue (typedL alg crit ct kid iv piv ++ csL ov)) rest := by
  have h7 : Gen.header_COUNTER_SIG = 7 := by decide
  match cs with
  | [] =>
    simp only [Header.toValue, headerTypedPairs_eq]
    show _ = headerFinish (pairsToValue (typedL alg crit ct kid iv piv ++ csL none)) rest
    rw [csL, List.append_nil]
  | [s] =>
    simp only [Header.toValue, csValue, headerTypedPairs_eq, h7]
    cases CoseSignature.toValue s <;> simp only [pairsToValue_append] <;> rfl
  | s :: s2 :: ss =>
    simp only [Header.toValue, csValue, headerTypedPairs_eq, h7]
    cases sigsToValues (s :: s2 :: ss) <;> simp only [pairsToValue_append] <;> rfl

/-- the other parameters of a header that can be emitted and read back. -/
structure RestGood (rest : List (Label × Value)) : Prop where
  nodup : (rest.map (·.1)).Nodup
  nonstd : ∀ l ∈ rest.map (·.1), l ∉ stdLabels
  good : ∀ l ∈ rest.map (·.1), LabelGood l

theorem Header.toValue_entries (alg crit ct kid iv piv cs rest) (ov : Option Value) (hcs : csValue cs = .ok ov) (hr : RestGood rest) :
    Header.toValue (.mk alg crit ct kid iv piv cs rest) = .ok (.map (pairsToValue (entries alg crit ct kid iv piv ov rest))) := by
  rw [Header.toValue_eq_finish, hcs]
  exact headerFinish_ok stdLabels _ rest (typedL_csL_labels ..).subset hr.nodup hr.nonstd

theorem Header.toValue_inv (alg crit ct kid iv piv cs rest) (x : Value) (h : Header.toValue (.mk alg crit ct kid iv piv cs rest) = .ok x) :
    ∃ ov, csValue cs = .ok ov ∧ x = .map (pairsToValue (entries alg crit ct kid iv piv ov rest)) := by
  rw [Header.toValue_eq_finish] at h
  obtain ⟨ov, hcs, h⟩ := Res.bind_eq_ok.mp h
  exact ⟨ov, hcs, headerFinish_inv h⟩

section
set_option smartUnfolding false -- the model's three-armed matches are read as `>>=` (Res.lean)

theorem CoseSignature.toValue_ok_iff (s : CoseSignature) (x : Value) : s.toValue = .ok x ↔
    ∃ pv uv, x = .array [pv, uv, .bytes s.signature] ∧ ProtectedHeader.cborBstr s.protected_ = .ok pv ∧ Header.toValue s.unprotected = .ok uv := by
  obtain ⟨p, u, sg⟩ := s
  rw [CoseSignature.toValue]
  constructor
  · intro h
    obtain ⟨pv, hp, h⟩ := Res.bind_eq_ok.mp h
    obtain ⟨uv, hu, h⟩ := Res.bind_eq_ok.mp h
    exact ⟨pv, uv, (Res.ok.inj h).symm, hp, hu⟩
  · rintro ⟨pv, uv, rfl, (hp : p.cborBstr = _), (hu : u.toValue = _)⟩
    rw [hp, hu]
    rfl

theorem headerSlots_ok_iff (p : ProtectedHeader) (u : Header) (hs : List Value) :
    headerSlots p u = .ok hs ↔ ∃ pv uv, hs = [pv, uv] ∧ ProtectedHeader.cborBstr p = .ok pv ∧ Header.toValue u = .ok uv := by
  rw [headerSlots]
  constructor
  · intro h
    obtain ⟨pv, hp, h⟩ := Res.bind_eq_ok.mp h
    obtain ⟨uv, hu, h⟩ := Res.bind_eq_ok.mp h
    exact ⟨pv, uv, (Res.ok.inj h).symm, hp, hu⟩
  · rintro ⟨pv, uv, rfl, hp, hu⟩
    rw [hp, hu]

end

/-- a COSE_Signature is emitted as an array that starts with a byte string: what tells one signature from an array of them. -/
theorem sig_emits_array (s : CoseSignature) (x : Value) (h : CoseSignature.toValue s = .ok x) : ∃ b tl, x = .array (.bytes b :: tl) := by
  obtain ⟨pv, uv, rfl, hp, _⟩ := (s.toValue_ok_iff x).mp h
  obtain ⟨b, rfl⟩ := cborBstr_is_bytes _ pv hp
  exact ⟨b, _, rfl⟩

theorem sigs_emit_arrays (ss : List CoseSignature) (vs : List Value) (h : sigsToValues ss = .ok vs) :
    ∀ x ∈ vs, ∃ b tl, x = .array (.bytes b :: tl) := fun x hx =>
  let ⟨s, _, hs⟩ := mapRes_mem _ ss vs (sigsToValues_eq ss ▸ h) x hx
  sig_emits_array s x hs

/-- what the six simple typed fields must satisfy for the emitted entries to decode (`Header::from_cbor_value`'s own rules). -/
structure TypedGood (alg : Option RegLabelPriv) (crit : List RegLabel) (ct : Option RegLabel) (iv piv : Bytes) : Prop where
  alg : ∀ a, alg = some a → GoodRegPriv Reg.algorithm a
  crit : ∀ l ∈ crit, GoodReg Reg.headerParameter l
  ct : ∀ c, ct = some c → GoodReg Reg.coapContentFormat c ∧ contentTypeOk c = true
  ivs : ¬ (iv ≠ [] ∧ piv ≠ [])

/-- each entry is read back by the arm of its label and sets its field. -/
theorem fold_typed (d : Nat) (sf : Value → Res CoseSignature) (alg crit ct kid iv piv) (hg : TypedGood alg crit ct iv piv) :
    foldRes (headerStep d sf) (typedL alg crit ct kid iv piv) Header.default = .ok (.mk alg crit ct kid iv piv [] []) := by
  have bytes : ∀ b : Bytes, b ≠ [] → tryAsNonemptyBytes (.bytes b) = .ok b := fun b hb => (tryAsNonemptyBytes_ok _ _).mpr ⟨rfl, hb⟩
  unfold typedL
  exact foldRes_append_ok (foldRes_append_ok (foldRes_append_ok (foldRes_append_ok (foldRes_append_ok
    (foldRes_optEntry (headerStep d sf) (.int 1) _ (fun o => .mk o [] none [] [] [] [] []) alg rfl fun a ha =>
      headerStep_of ((headerDispatch_alg ..).trans (Res.map_ok_of (RegLabelPriv.roundtrip _ alg_values_nodup a (hg.alg a ha)))) fun h => h.1 rfl)
    (foldRes_listEntry (headerStep d sf) (.int 2) (fun c => .array (c.map (RegLabel.value Reg.headerParameter))) (fun c => .mk alg c none [] [] [] [] []) crit rfl fun hc =>
      headerStep_of ((headerDispatch_crit ..).trans (Res.map_ok_of ((critOf_ok ..).mpr ⟨_, rfl, by simpa using hc,
        mapRes_roundtrip _ _ crit fun x hx => RegLabel.roundtrip _ hp_values_nodup x (hg.crit x hx)⟩))) fun h => h.1 rfl))
    (foldRes_optEntry (headerStep d sf) (.int 3) _ (fun o => .mk alg crit o [] [] [] [] []) ct rfl fun c hc =>
      headerStep_of ((headerDispatch_ct ..).trans (Res.map_ok_of ((contentTypeOf_ok ..).mpr
        ⟨RegLabel.roundtrip _ coap_values_nodup c (hg.ct c hc).1, (hg.ct c hc).2⟩))) fun h => h.1 rfl))
    (foldRes_listEntry (headerStep d sf) (.int 4) Value.bytes (fun b => .mk alg crit ct b [] [] [] []) kid rfl fun hb =>
      headerStep_of ((headerDispatch_kid ..).trans (Res.map_ok_of (bytes kid hb))) fun h => h.1 rfl))
    (foldRes_listEntry (headerStep d sf) (.int 5) Value.bytes (fun b => .mk alg crit ct kid b [] [] []) iv rfl fun hb =>
      headerStep_of ((headerDispatch_iv ..).trans (Res.map_ok_of (bytes iv hb))) fun h => h.2 rfl))
    (foldRes_listEntry (headerStep d sf) (.int 6) Value.bytes (fun b => .mk alg crit ct kid iv b [] []) piv rfl fun hb =>
      headerStep_of ((headerDispatch_piv ..).trans (Res.map_ok_of (bytes piv hb))) hg.ivs)

theorem csArm_emit (d : Nat) (sf : Value → Res CoseSignature) (hd : d ≠ 0) (cs cs' : List CoseSignature) (vs : List Value) (hne : cs ≠ [])
    (h1 : sigsToValues cs = .ok vs) (h2 : mapRes sf vs = .ok cs') :
    ∃ x, csValue cs = .ok (some x) ∧ counterSigArm d sf x = .ok cs' := by
  have harr := sigs_emit_arrays cs vs h1
  have hl := mapRes_length _ cs vs (sigsToValues_eq cs ▸ h1)
  match cs, vs, hne, hl with
  | [s], [y], _, _ =>
    obtain ⟨b, tl, rfl⟩ := harr y (by simp)
    obtain ⟨_, _, ht, hn, e⟩ := (mapRes_cons_ok ..).mp (sigsToValues_eq [s] ▸ h1)
    cases hn; cases e
    obtain ⟨s', _, hs', hn, rfl⟩ := (mapRes_cons_ok ..).mp h2
    cases hn
    exact ⟨_, (csValue_single s).trans (Res.map_ok_of ht), (counterSigArm_ok_iff ..).mpr ⟨hd, .inl ⟨b, tl, s', rfl, hs', rfl⟩⟩⟩
  | s :: s2 :: ss, x :: vs', _, _ =>
    obtain ⟨b, tl, rfl⟩ := harr x (by simp)
    exact ⟨_, (csValue_many s s2 ss).trans (Res.map_ok_of h1), (counterSigArm_ok_iff ..).mpr ⟨hd, .inr ⟨_, _, rfl, h2⟩⟩⟩

section
variable (d : Nat) (sf : Value → Res CoseSignature)

/-- the counter-signature entry (if any) decodes to `cs`. -/
def ArmOk (ov : Option Value) (cs : List CoseSignature) : Prop :=
  match ov with
  | none => cs = []
  | some v => counterSigArm d sf v = .ok cs

theorem fold_csL (ov : Option Value) (cs : List CoseSignature) (a c ct k i p)
    (h : ArmOk d sf ov cs) (hiv : ¬ (i ≠ [] ∧ p ≠ [])) :
    foldRes (headerStep d sf) (csL ov) (.mk a c ct k i p [] []) = .ok (.mk a c ct k i p cs []) := by
  cases ov with
  | none => cases h; rfl
  | some v => exact foldRes_single (headerStep_of ((headerDispatch_csig ..).trans (Res.map_ok_of h)) hiv)

theorem stdLabels_good : ∀ l ∈ stdLabels, LabelGood l := by
  simp only [stdLabels, List.forall_mem_cons, LabelGood, List.not_mem_nil, false_imp_iff, implies_true, and_true]; decide

theorem headerLoop_entries (alg crit ct kid iv piv cs rest) (ov : Option Value) (hg : TypedGood alg crit ct iv piv)
    (harm : ArmOk d sf ov cs) (hr : RestGood rest) :
    headerLoop d sf (pairsToValue (entries alg crit ct kid iv piv ov rest)) Header.default [] = .ok (.mk alg crit ct kid iv piv cs rest) := by
  rw [headerLoop_eq_gen]
  exact genLoop_entries label_loop_hyps.1 label_loop_hyps.2 labelValue stdLabels (Header.mk alg crit ct kid iv piv cs) (by decide)
    (typedL_csL_labels ..) (fun l hl => Label.roundtrip l (stdLabels_good l hl)) hr.nodup hr.nonstd (fun l hl => Label.roundtrip l (hr.good l hl))
    (foldRes_append_ok (fold_typed d sf alg crit ct kid iv piv hg) (fold_csL d sf ov cs _ _ _ _ _ _ harm hg.ivs))
    fun r l v hl => headerStep_of (headerDispatch_other d sf l v _ hl) hg.ivs
end

section
set_option smartUnfolding false -- as above

theorem CoseSign1.toValue_eq (m : CoseSign1) : m.toValue =
    (headerSlots m.protected_ m.unprotected).map fun hs => .array (hs ++ [optBytesToValue m.payload, .bytes m.signature]) := rfl

theorem CoseMac0.toValue_eq (m : CoseMac0) : m.toValue =
    (headerSlots m.protected_ m.unprotected).map fun hs => .array (hs ++ [optBytesToValue m.payload, .bytes m.tag]) := rfl

theorem CoseEncrypt0.toValue_eq (m : CoseEncrypt0) : m.toValue =
    (headerSlots m.protected_ m.unprotected).map fun hs => .array (hs ++ [optBytesToValue m.ciphertext]) := rfl

theorem CoseSign.toValue_eq (m : CoseSign) : m.toValue = headerSlots m.protected_ m.unprotected >>= fun hs =>
    (sigsToValues m.signatures).map fun ss => .array (hs ++ [optBytesToValue m.payload, .array ss]) := rfl

theorem CoseEncrypt.toValue_eq (m : CoseEncrypt) : m.toValue = headerSlots m.protected_ m.unprotected >>= fun hs =>
    (recipientsToValues m.recipients).map fun rs => .array (hs ++ [optBytesToValue m.ciphertext, .array rs]) := rfl

theorem CoseMac.toValue_eq (m : CoseMac) : m.toValue = headerSlots m.protected_ m.unprotected >>= fun hs =>
    (recipientsToValues m.recipients).map fun rs => .array (hs ++ [optBytesToValue m.payload, .bytes m.tag, .array rs]) := rfl

theorem CoseRecipient.toValue_nil (p : ProtectedHeader) (u : Header) (ct : Option Bytes) :
    CoseRecipient.toValue (.mk p u ct []) = (headerSlots p u).map fun hs => .array (hs ++ [optBytesToValue ct]) := rfl

theorem CoseRecipient.toValue_cons (p : ProtectedHeader) (u : Header) (ct : Option Bytes) (r : CoseRecipient) (rs : List CoseRecipient) :
    CoseRecipient.toValue (.mk p u ct (r :: rs)) = headerSlots p u >>= fun hs =>
      (recipientsToValues (r :: rs)).map fun xs => .array (hs ++ [optBytesToValue ct] ++ [.array xs]) := rfl

end

end Coset
