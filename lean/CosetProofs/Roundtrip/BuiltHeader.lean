/-
  Encode-then-decode for *built* values (C11): a well-formed in-memory header / signature / protected header encodes, and decoding the
  result gives the same value up to the byte strings the encoder assigned to protected headers (`erase` forgets them).
  By induction on the nesting budget `d` (`built_rt`): a header's counter signatures are signatures at budget `d - 1` (`hdr_rt` from
  `SigRT (d - 1)`), a protected header wraps a header at the same budget (`ph_rt` from `HdrRT d`), a signature holds one of each
  (`sig_rt` from `HdrRT d` and `PhRT d`).  The decoders are taken with exactly the fuel that suffices at budget `d` (`Hd`, `Pd`,
  `Sd`); the `*_api_rt` say the same of the API's entry points.
-/
import CosetProofs.Roundtrip.HeaderEmit
import CosetProofs.Fuel
import CosetProofs.Shapes
import CosetProofs.Props.C03
namespace Coset
open Coset.Spec Coset.Cbor

mutual
/-- well-formed at nesting budget `d`: what the setters and decoders can produce and the decoder will take back. -/
def Header.WF : Nat → Header → Prop
  | d, .mk alg crit ct _ iv piv cs rest => TypedGood alg crit ct iv piv ∧ RestGood rest ∧ (cs ≠ [] → d ≠ 0) ∧ sigsWF (d - 1) cs
def CoseSignature.WF : Nat → CoseSignature → Prop
  | d, .mk p u _ => ProtectedHeader.WF d p ∧ Header.WF d u
/-- a protected header either carries bytes it was decoded from (and is then exactly their decoding), or was built: then its header is
    well-formed and, unless empty, its map is one the serializer represents faithfully. -/
def ProtectedHeader.WF : Nat → ProtectedHeader → Prop
  | d, .mk (some data) h => ProtectedHeader.fromBstr (3 * d + 2) d (.bytes data) = .ok (.mk (some data) h)
  | d, .mk none h => Header.WF d h ∧ (h.isEmpty = true ∨ ∃ x, Header.toValue h = .ok x ∧ Normal x ∧ depthOf x ≤ recursionLimit)
def sigsWF : Nat → List CoseSignature → Prop
  | _, [] => True
  | d, s :: ss => CoseSignature.WF d s ∧ sigsWF d ss
end

mutual
/-- forget which bytes protected headers carry (the parsed content stays). -/
def Header.erase : Header → Header
  | .mk a c ct k i p cs r => .mk a c ct k i p (eraseSigs cs) r
def CoseSignature.erase : CoseSignature → CoseSignature
  | .mk p u s => .mk (ProtectedHeader.erase p) (Header.erase u) s
def ProtectedHeader.erase : ProtectedHeader → ProtectedHeader
  | .mk _ h => .mk none (Header.erase h)
def eraseSigs : List CoseSignature → List CoseSignature
  | [] => []
  | s :: ss => CoseSignature.erase s :: eraseSigs ss
end

/-- the decoders at exactly sufficient fuel (`Hd` is this one throughout, not the head type `Cbor.Hd` of the opened namespace). -/
abbrev Hd (d : Nat) := Header.fromValue (3 * d + 1) d
abbrev Pd (d : Nat) := ProtectedHeader.fromBstr (3 * d + 2) d
abbrev Sd (d : Nat) := CoseSignature.fromValue (3 * d + 3) d

/-- the decoded signature carries the protected bytes the built one emits, and the same signature bytes. -/
def SigSame (s' s : CoseSignature) : Prop :=
  ProtectedHeader.cborBstr s'.protected_ = ProtectedHeader.cborBstr s.protected_ ∧ s'.signature = s.signature

def sigsSame : List CoseSignature → List CoseSignature → Prop
  | [], [] => True
  | s' :: ss', s :: ss => SigSame s' s ∧ sigsSame ss' ss
  | _, _ => False

theorem sigsSame_get : ∀ (ss' ss : List CoseSignature), sigsSame ss' ss → ∀ i : Nat,
    (ss[i]? = none ∧ ss'[i]? = none) ∨ ∃ s s', ss[i]? = some s ∧ ss'[i]? = some s' ∧ SigSame s' s
  | [], [], _, _ => .inl ⟨rfl, rfl⟩
  | [], _ :: _, h, _ => nomatch h
  | _ :: _, [], h, _ => nomatch h
  | a :: _, c :: _, h, 0 => .inr ⟨c, a, rfl, rfl, h.1⟩
  | _ :: as, _ :: cs, h, i + 1 => sigsSame_get as cs h.2 i

theorem sigsSame_length : ∀ (a c : List CoseSignature), sigsSame a c → a.length = c.length
  | [], [], _ => rfl
  | [], _ :: _, h => nomatch h
  | _ :: _, [], h => nomatch h
  | _ :: xs, _ :: zs, h => congrArg (· + 1) (sigsSame_length xs zs h.2)

def HdrRT (d : Nat) : Prop := ∀ h, Header.WF d h → ∃ x h', Header.toValue h = .ok x ∧ Hd d x = .ok h' ∧ Header.erase h' = Header.erase h
def PhRT (d : Nat) : Prop := ∀ p, ProtectedHeader.WF d p →
  ∃ b p', ProtectedHeader.cborBstr p = .ok (.bytes b) ∧ Pd d (.bytes b) = .ok p' ∧ ProtectedHeader.erase p' = ProtectedHeader.erase p ∧
    p'.originalData = some b
def SigRT (d : Nat) : Prop := ∀ s, CoseSignature.WF d s →
  ∃ b tl s', CoseSignature.toValue s = .ok (.array (.bytes b :: tl)) ∧ Sd d (.array (.bytes b :: tl)) = .ok s' ∧ CoseSignature.erase s' = CoseSignature.erase s ∧
    SigSame s' s

theorem isEmpty_default (h : Header) (he : h.isEmpty = true) : h = Header.default := by
  obtain ⟨a, c, ct, k, i, p, cs, r⟩ := h
  obtain ⟨rfl, rfl, rfl, rfl, rfl, rfl, rfl, rfl⟩ := (Props.C03.isEmpty_iff _).mp he
  rfl

theorem ph_rt (d : Nat) (hH : HdrRT d) : PhRT d := by
  intro ⟨orig, h⟩ hp
  cases orig with
  | some data => exact ⟨data, _, rfl, hp, rfl, rfl⟩
  | none =>
    obtain ⟨hw, hf⟩ := hp
    by_cases he : h.isEmpty = true
    · cases isEmpty_default h he
      exact ⟨[], .mk (some []) Header.default, cborBstr_built_empty _ he, (protected_ok_iff ..).mpr ⟨[], rfl, .inl ⟨rfl, rfl⟩⟩, rfl, rfl⟩
    · obtain ⟨x, hx, hn, hdp⟩ := hf.resolve_left he
      obtain ⟨x', h', h1, h2, h3⟩ := hH h hw
      cases hx.symm.trans h1
      exact ⟨enc x, .mk (some (enc x)) h', (cborBstr_built_nonempty h (Bool.eq_false_iff.mpr he)).trans (Res.map_ok_of hx),
        (protected_ok_iff ..).mpr ⟨enc x, rfl, .inr ⟨enc_ne_nil x, x, h', readToValue_enc x hn hdp, h2, rfl⟩⟩,
        by simp [ProtectedHeader.erase, h3], rfl⟩

theorem sig_rt (d : Nat) (hH : HdrRT d) (hP : PhRT d) : SigRT d := by
  intro s hs
  cases s with
  | mk p u sg =>
    simp only [CoseSignature.WF] at hs
    obtain ⟨b, p', h1, h2, h3, h4⟩ := hP p hs.1
    obtain ⟨x, u', g1, g2, g3⟩ := hH u hs.2
    refine ⟨b, [x, .bytes sg], .mk p' u' sg, (CoseSignature.toValue_ok_iff ..).mpr ⟨_, x, rfl, h1, g1⟩, ?_, by simp [CoseSignature.erase, h3, g3],
      by simp [SigSame, CoseSignature.protected_, CoseSignature.signature, cborBstr_of_orig p' b h4, h1]⟩
    have e1 : Header.fromValue (3 * d + 2) d x = .ok u' := by
      rw [(fuel_independent d).1 (3 * d + 2) x (by omega)]; exact g2
    exact (signature_ok_iff (3 * d + 2) d _ (.mk p' u' sg)).mpr ⟨.bytes b, x, rfl, h2, e1⟩

theorem sigs_rt (d : Nat) (sf : Value → Res CoseSignature)
    (hS : ∀ s, CoseSignature.WF d s → ∃ x s', CoseSignature.toValue s = .ok x ∧ sf x = .ok s' ∧ CoseSignature.erase s' = CoseSignature.erase s ∧ SigSame s' s)
    (ss : List CoseSignature) (hw : sigsWF d ss) :
    ∃ vs ss', sigsToValues ss = .ok vs ∧ mapRes sf vs = .ok ss' ∧ eraseSigs ss' = eraseSigs ss ∧ sigsSame ss' ss := by
  induction ss with
  | nil => exact ⟨[], [], rfl, rfl, rfl, trivial⟩
  | cons s ss ih =>
    obtain ⟨vs, ss', h1, h2, h3, h4⟩ := ih hw.2
    obtain ⟨x, s', g1, g2, g3, g4⟩ := hS s hw.1
    rw [sigsToValues_eq] at h1 ⊢
    exact ⟨x :: vs, s' :: ss', (mapRes_cons_ok ..).mpr ⟨x, vs, g1, h1, rfl⟩, (mapRes_cons_ok ..).mpr ⟨s', ss', g2, h2, rfl⟩, by simp [eraseSigs, g3, h3], g4, h4⟩

theorem hdr_rt (d : Nat) (hS : d ≠ 0 → SigRT (d - 1)) : HdrRT d := by
  intro h hw
  cases h with
  | mk alg crit ct kid iv piv cs rest =>
    simp only [Header.WF] at hw
    obtain ⟨hg, hr, hd, hcs⟩ := hw
    obtain ⟨ov, cs', hv, harm, her⟩ : ∃ ov cs', csValue cs = .ok ov ∧ ArmOk d (CoseSignature.fromValue (3 * d) (d - 1)) ov cs' ∧
        eraseSigs cs' = eraseSigs cs := by
      cases cs with
      | nil => exact ⟨none, [], rfl, rfl, rfl⟩
      | cons s0 ss0 =>
        have hd0 : d ≠ 0 := hd (List.cons_ne_nil _ _)
        -- `Hd d` passes its fuel less one to the decoder of counter signatures: that is `Sd (d - 1)`
        have hsf : CoseSignature.fromValue (3 * d) (d - 1) = Sd (d - 1) := by
          have : 3 * d = 3 * (d - 1) + 3 := by omega
          simp only [Sd, this]
        obtain ⟨vs, ss', h1, h2, h3, _⟩ := sigs_rt (d - 1) (Sd (d - 1)) (fun s hw => let ⟨_, _, s', h⟩ := hS hd0 s hw; ⟨_, s', h⟩) (s0 :: ss0) hcs
        rw [hsf]
        obtain ⟨x, hx1, hx2⟩ := csArm_emit d (Sd (d - 1)) hd0 _ ss' vs (List.cons_ne_nil _ _) h1 h2
        exact ⟨some x, ss', hx1, hx2, h3⟩
    exact ⟨_, .mk alg crit ct kid iv piv cs' rest, Header.toValue_entries _ _ _ _ _ _ _ _ ov hv hr,
      (header_ok_iff ..).mpr ⟨_, rfl, headerLoop_entries d _ _ _ _ _ _ _ cs' _ ov hg harm hr⟩, by simp [Header.erase, her]⟩

theorem built_rt : ∀ d, HdrRT d ∧ PhRT d ∧ SigRT d :=
  budget_induction fun d ih =>
    have hH := hdr_rt d fun hd => (ih hd).2.2
    have hP := ph_rt d hH
    ⟨hH, hP, sig_rt d hH hP⟩

theorem topFuel_ge : 3 * maxNest + 3 = topFuel := rfl

theorem hdr_api_rt (h : Header) (hw : Header.WF maxNest h) :
    ∃ x h', Header.toValue h = .ok x ∧ hdrFromValue x = .ok h' ∧ Header.erase h' = Header.erase h := by
  obtain ⟨x, h', h1, h2, h3⟩ := (built_rt maxNest).1 h hw
  refine ⟨x, h', h1, ?_, h3⟩
  simp only [hdrFromValue]
  rw [(fuel_independent maxNest).1 topFuel x (by simp [topFuel])]; exact h2

theorem ph_api_rt (p : ProtectedHeader) (hw : ProtectedHeader.WF maxNest p) :
    ∃ b p', ProtectedHeader.cborBstr p = .ok (.bytes b) ∧ phFromBstr (.bytes b) = .ok p' ∧ ProtectedHeader.erase p' = ProtectedHeader.erase p ∧
      p'.originalData = some b := by
  obtain ⟨b, p', h1, h2, h3, h4⟩ := (built_rt maxNest).2.1 p hw
  refine ⟨b, p', h1, ?_, h3, h4⟩
  simp only [phFromBstr]
  rw [(fuel_independent maxNest).2.1 topFuel _ (by simp [topFuel])]; exact h2

theorem sig_api_rt (s : CoseSignature) (hw : CoseSignature.WF maxNest s) :
    ∃ x s', CoseSignature.toValue s = .ok x ∧ sigFromValue x = .ok s' ∧ CoseSignature.erase s' = CoseSignature.erase s ∧ SigSame s' s := by
  obtain ⟨b, tl, s', h1, h2, h3, h4⟩ := (built_rt maxNest).2.2 s hw
  refine ⟨_, s', h1, ?_, h3, h4⟩
  -- the fuel of `Sd maxNest` is that of the API's entry point
  rw [sigFromValue, ← topFuel_ge]; exact h2

end Coset
