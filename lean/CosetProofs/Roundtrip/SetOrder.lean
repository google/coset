/-
  The ordered-set insertion used for `key_ops`, under a comparison that always answers with a lawful one (`cmp = .ok ∘ ord`,
  `Std.TransCmp ord`): it keeps a strictly ascending list ascending, and puts an element above all of the list at its end.
-/
import CosetProofs.Props.C16
import CosetProofs.Res
namespace Coset
open Coset.Props.C16
open Std (TransCmp OrientedCmp)

/-- `RegisteredLabel::cmp` always answers, with `Label.ord` of the labels the two stand for. -/
theorem RegLabel.cmp_ord (R : Registry) (a b : RegLabel) : RegLabel.cmp R a b = .ok (Label.ord (regEnc R a) (regEnc R b)) :=
  (reg_cmp_eq R a b).trans (Label.cmp_ord _ _)

instance (R : Registry) : TransCmp fun a b => Label.ord (regEnc R a) (regEnc R b) := TransCmp.pullback (regEnc R)

section
variable {α : Type} (cmp : α → α → Res Ordering)

def Asc (s : List α) : Prop := s.Pairwise (fun x y => cmp x y = .ok .lt)

variable {cmp} {ord : α → α → Ordering} [TransCmp ord] (hc : ∀ a b, cmp a b = .ok (ord a b))
include hc

omit [TransCmp ord] in
theorem cmp_ok_lt_iff (a b : α) : cmp a b = .ok .lt ↔ ord a b = .lt := by rw [hc, Res.ok.injEq]

theorem setInsert_asc (s : List α) (x : α) : ∀ r : List α, Asc cmp s → setInsert cmp s x = .ok (some r) → Asc cmp r := by
  induction s with
  | nil => intro r _ h; cases h; simp [Asc]
  | cons y ys ih =>
    intro r hs h
    obtain ⟨hy, hys⟩ := List.pairwise_cons.mp hs
    rcases (setInsert_cons_some ..).mp h with ⟨hlt, rfl⟩ | ⟨hgt, r', hr, rfl⟩
    · refine List.pairwise_cons.mpr ⟨fun z hz => ?_, hs⟩
      rcases List.mem_cons.mp hz with rfl | hz
      · exact hlt
      · exact (cmp_ok_lt_iff hc x z).mpr (TransCmp.lt_trans ((cmp_ok_lt_iff hc x y).mp hlt) ((cmp_ok_lt_iff hc y z).mp (hy z hz)))
    · refine List.pairwise_cons.mpr ⟨fun z hz => ?_, ih r' hys hr⟩
      rcases (setInsert_mem hr z).mp hz with rfl | hz
      · exact (cmp_ok_lt_iff hc y z).mpr (OrientedCmp.gt_iff_lt.mp (Res.ok.inj ((hc z y).symm.trans hgt)))
      · exact hy z hz

theorem setInsert_append (s : List α) (x : α) (h : ∀ y ∈ s, cmp y x = .ok .lt) : setInsert cmp s x = .ok (some (s ++ [x])) := by
  induction s with
  | nil => rfl
  | cons y ys ih =>
    have h1 : ord x y = .gt := OrientedCmp.gt_iff_lt.mpr ((cmp_ok_lt_iff hc y x).mp (h y (by simp)))
    simp [setInsert, hc x y, h1, ih fun z hz => h z (by simp [hz])]
end

end Coset
