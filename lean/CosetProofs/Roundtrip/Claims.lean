/-
  CWT claims sets at `Value` level: a well-formed claims set is read back from what it emits (`claims_rt`); what the decoder accepts is
  well-formed (`claims_decoded_wf`), hence re-emits (`claims_reemits`).
-/
import CosetProofs.Roundtrip.ReemitMap
import CosetProofs.Roundtrip.HeaderEmit
import CosetProofs.ClaimsFields
namespace Coset
open Coset.Props.C18

abbrev nameVal := RegLabelPriv.value Reg.cwtClaimName

def GoodTs : Timestamp → Prop
  | .wholeSeconds n => i64Min ≤ n ∧ n ≤ i64Max
  | .fractionalSeconds _ => True

theorem ts_roundtrip (t : Timestamp) (h : GoodTs t) : Timestamp.fromValue (tsValue t) = .ok t := by
  cases t with
  | wholeSeconds n => exact (timestamp _ _).mpr (.inl ⟨n, rfl, h.1, h.2, rfl⟩)
  | fractionalSeconds f => exact (timestamp _ _).mpr (.inr ⟨f, rfl, rfl⟩)

theorem ts_good (v : Value) (t : Timestamp) (h : Timestamp.fromValue v = .ok t) : GoodTs t := by
  rcases (timestamp v t).mp h with ⟨n, _, h1, h2, rfl⟩ | ⟨b, _, rfl⟩
  · exact ⟨h1, h2⟩
  · trivial

theorem tsValue_of_fromValue (v : Value) (t : Timestamp) (h : Timestamp.fromValue v = .ok t) : tsValue t = v := by
  rcases (timestamp v t).mp h with ⟨n, rfl, _, _, rfl⟩ | ⟨b, rfl, rfl⟩ <;> rfl

/-- entries for the seven typed claims, in emission order. -/
def claimL (iss sub aud : Option Bytes) (exp nbf iat : Option Timestamp) (cti : Option Bytes) : List (RegLabelPriv × Value) :=
  (iss.toList.map fun t => (cISS, Value.text t)) ++ (sub.toList.map fun t => (cSUB, Value.text t)) ++ (aud.toList.map fun t => (cAUD, Value.text t)) ++
  (exp.toList.map fun t => (cEXP, tsValue t)) ++ (nbf.toList.map fun t => (cNBF, tsValue t)) ++ (iat.toList.map fun t => (cIAT, tsValue t)) ++
  (cti.toList.map fun b => (cCTI, Value.bytes b))

def namePairs (ps : List (RegLabelPriv × Value)) : List (Value × Value) := ps.map fun p => (nameVal p.1, p.2)

theorem claimsRestToPairs_eq (ps : List (RegLabelPriv × Value)) : claimsRestToPairs ps = .ok (namePairs ps) := by
  induction ps with
  | nil => rfl
  | cons p ps ih => obtain ⟨l, v⟩ := p; simp [claimsRestToPairs, RegLabelPriv.toValue_eq, ih, namePairs]

theorem optPush_map {α : Type} (m : List (Value × Value)) (l : Int) (o : Option α) (g : α → Value) :
    optPush m l (o.map g) = m ++ o.toList.map fun x => (.int l, g x) := by cases o <;> simp [optPush]

/-- the typed claim names stand for the integers `to_cbor_value` writes. -/
theorem nameVal_typed : nameVal cISS = .int Gen.cwt_ISS ∧ nameVal cSUB = .int Gen.cwt_SUB ∧ nameVal cAUD = .int Gen.cwt_AUD ∧
    nameVal cEXP = .int Gen.cwt_EXP ∧ nameVal cNBF = .int Gen.cwt_NBF ∧ nameVal cIAT = .int Gen.cwt_IAT ∧ nameVal cCTI = .int Gen.cwt_CTI := by
  refine ⟨?_, ?_, ?_, ?_, ?_, ?_, ?_⟩ <;> exact congrArg Value.int (by decide)

theorem ClaimsSet.toValue_entries (iss sub aud exp nbf iat cti rest) :
    ClaimsSet.toValue ⟨iss, sub, aud, exp, nbf, iat, cti, rest⟩ = .ok (.map (namePairs (claimL iss sub aud exp nbf iat cti ++ rest))) := by
  simp only [ClaimsSet.toValue, claimsRestToPairs_eq, optPush_map, namePairs, claimL, List.map_append, List.map_map, Function.comp_def,
    nameVal_typed, List.nil_append]

structure ClaimsGood (exp nbf iat : Option Timestamp) : Prop where
  exp : ∀ t, exp = some t → GoodTs t
  nbf : ∀ t, nbf = some t → GoodTs t
  iat : ∀ t, iat = some t → GoodTs t

theorem fold_claimL (iss sub aud exp nbf iat cti) (hg : ClaimsGood exp nbf iat) :
    foldRes claimStep (claimL iss sub aud exp nbf iat cti) ClaimsSet.default = .ok ⟨iss, sub, aud, exp, nbf, iat, cti, []⟩ := by
  unfold claimL
  exact foldRes_append_ok (foldRes_append_ok (foldRes_append_ok (foldRes_append_ok (foldRes_append_ok (foldRes_append_ok
    (foldRes_optEntry claimStep cISS .text (fun o => ⟨o, none, none, none, none, none, none, []⟩) iss rfl fun _ _ => claimDispatch_iss ..)
    (foldRes_optEntry claimStep cSUB .text (fun o => ⟨iss, o, none, none, none, none, none, []⟩) sub rfl fun _ _ => claimDispatch_sub ..))
    (foldRes_optEntry claimStep cAUD .text (fun o => ⟨iss, sub, o, none, none, none, none, []⟩) aud rfl fun _ _ => claimDispatch_aud ..))
    (foldRes_optEntry claimStep cEXP tsValue (fun o => ⟨iss, sub, aud, o, none, none, none, []⟩) exp rfl fun t ht =>
      (claimDispatch_exp ..).trans (Res.map_ok_of (ts_roundtrip t (hg.exp t ht)))))
    (foldRes_optEntry claimStep cNBF tsValue (fun o => ⟨iss, sub, aud, exp, o, none, none, []⟩) nbf rfl fun t ht =>
      (claimDispatch_nbf ..).trans (Res.map_ok_of (ts_roundtrip t (hg.nbf t ht)))))
    (foldRes_optEntry claimStep cIAT tsValue (fun o => ⟨iss, sub, aud, exp, nbf, o, none, []⟩) iat rfl fun t ht =>
      (claimDispatch_iat ..).trans (Res.map_ok_of (ts_roundtrip t (hg.iat t ht)))))
    (foldRes_optEntry claimStep cCTI .bytes (fun o => ⟨iss, sub, aud, exp, nbf, iat, o, []⟩) cti rfl fun _ _ => claimDispatch_cti ..)

theorem claimL_names (iss sub aud exp nbf iat cti) : List.Sublist ((claimL iss sub aud exp nbf iat cti).map (·.1)) typedClaims := by
  simp only [claimL, List.map_append]
  exact ((((((fst_optEntry ..).append (fst_optEntry ..)).append (fst_optEntry ..)).append (fst_optEntry ..)).append (fst_optEntry ..)).append
    (fst_optEntry ..)).append (fst_optEntry ..)

structure RestNames (ps : List (RegLabelPriv × Value)) : Prop where
  nodup : (ps.map (·.1)).Nodup
  nontyped : ∀ l ∈ ps.map (·.1), l ∉ typedClaims
  good : ∀ l ∈ ps.map (·.1), GoodRegPriv Reg.cwtClaimName l ∧ GoodName Reg.cwtClaimName l

theorem typedClaims_good : ∀ l ∈ typedClaims, GoodRegPriv Reg.cwtClaimName l := by
  simp only [typedClaims, List.forall_mem_cons, List.not_mem_nil, false_imp_iff, implies_true, and_true, cISS, cSUB, cAUD, cEXP, cNBF, cIAT,
    cCTI, GoodRegPriv]
  decide +kernel

theorem claimsLoop_entries (iss sub aud exp nbf iat cti rest) (hg : ClaimsGood exp nbf iat) (hr : RestNames rest) :
    claimsLoop (namePairs (claimL iss sub aud exp nbf iat cti ++ rest)) ClaimsSet.default [] = .ok ⟨iss, sub, aud, exp, nbf, iat, cti, rest⟩ := by
  rw [claimsLoop_eq_gen]
  exact genLoop_entries claims_loop_hyps.1 claims_loop_hyps.2 nameVal typedClaims (ClaimsSet.mk iss sub aud exp nbf iat cti) typedClaims_nodup
    (claimL_names ..) (fun l hl => RegLabelPriv.roundtrip _ cwt_values_nodup l (typedClaims_good l hl)) hr.nodup hr.nontyped
    (fun l hl => RegLabelPriv.roundtrip _ cwt_values_nodup l (hr.good l hl).1) (fold_claimL iss sub aud exp nbf iat cti hg)
    fun r n v hn => claimDispatch_other n v _ hn

/-- a claims set the decoder takes back: times in range, other claims under distinct valid names none of which is a typed claim. -/
structure ClaimsSet.WF (c : ClaimsSet) : Prop where
  times : ClaimsGood c.expirationTime c.notBefore c.issuedAt
  rest : RestNames c.rest

theorem claims_rt (c : ClaimsSet) (hw : c.WF) :
    c.toValue = .ok (.map (namePairs (claimL c.issuer c.subject c.audience c.expirationTime c.notBefore c.issuedAt c.cwtId ++ c.rest))) ∧
    ClaimsSet.fromValue (.map (namePairs (claimL c.issuer c.subject c.audience c.expirationTime c.notBefore c.issuedAt c.cwtId ++ c.rest))) = .ok c := by
  obtain ⟨iss, sub, aud, exp, nbf, iat, cti, rest⟩ := c
  exact ⟨ClaimsSet.toValue_entries .., by rw [ClaimsSet.fromValue]; exact claimsLoop_entries _ _ _ _ _ _ _ _ hw.times hw.rest⟩

section
variable {ps : List (RegLabelPriv × Value)} {c : ClaimsSet} (co : ClaimsOf ps c)
include co

theorem claimsOf_wf (hnd : (ps.map (·.1)).Nodup) (hlg : ∀ n ∈ ps.map (·.1), GoodRegPriv Reg.cwtClaimName n) : c.WF := by
  obtain ⟨rnd, rin⟩ := filter_untyped typedClaims ps hnd
  exact ⟨⟨fun t ht => let ⟨v, hdec⟩ := opt_field_src co.expirationTime t ht; ts_good v t hdec,
      fun t ht => let ⟨v, hdec⟩ := opt_field_src co.notBefore t ht; ts_good v t hdec,
      fun t ht => let ⟨v, hdec⟩ := opt_field_src co.issuedAt t ht; ts_good v t hdec⟩,
    co.rest ▸ ⟨rnd, fun n hn => (rin n hn).1, fun n hn => have hg := hlg n (rin n hn).2; ⟨hg, hg.goodName⟩⟩⟩

theorem claimsOf_wire : ∀ e ∈ claimL c.issuer c.subject c.audience c.expirationTime c.notBefore c.issuedAt c.cwtId, e ∈ ps := by
  simp only [claimL, List.forall_mem_append]
  exact ⟨⟨⟨⟨⟨⟨opt_field_wire _ _ _ _ _ (fun _ _ h => h.symm) co.issuer, opt_field_wire _ _ _ _ _ (fun _ _ h => h.symm) co.subject⟩,
    opt_field_wire _ _ _ _ _ (fun _ _ h => h.symm) co.audience⟩, opt_field_wire _ _ _ _ _ tsValue_of_fromValue co.expirationTime⟩,
    opt_field_wire _ _ _ _ _ tsValue_of_fromValue co.notBefore⟩, opt_field_wire _ _ _ _ _ tsValue_of_fromValue co.issuedAt⟩,
    opt_field_wire _ _ _ _ _ (fun _ _ h => h.symm) co.cwtId⟩
end

theorem claims_decoded_wf (v : Value) (c : ClaimsSet) (h : ClaimsSet.fromValue v = .ok c) : c.WF :=
  let ⟨_, _, _, hns, hnd, co⟩ := claims_accepted_is_wellformed v c h
  claimsOf_wf co (zip_nodup_of_mapRes hns hnd) (zip_forall_of_mapRes (RegLabelPriv.fromValue_good Reg.cwtClaimName) hns)

theorem claimL_length_le (iss sub aud exp nbf iat cti) : (claimL iss sub aud exp nbf iat cti).length ≤ 7 := by
  simpa [typedClaims] using (claimL_names iss sub aud exp nbf iat cti).length_le

theorem claims_reemits : Reemits ClaimsSet.fromValue ClaimsSet.toValue := by
  intro v c h
  obtain ⟨m, ns, rfl, hns, hnd, co⟩ := claims_accepted_is_wellformed v c h
  have rt := claims_rt c (claims_decoded_wf _ c h)
  have hent := claimsOf_wire co
  obtain ⟨iss, sub, aud, exp, nbf, iat, cti, rest⟩ := c
  obtain rfl : rest = (ns.zip (m.map (·.2))).filter fun p => p.1 ∉ typedClaims := co.rest
  exact ⟨_, rt.1, rt.2, map_tame (RegLabelPriv.value_of_fromValue _) hns _
    (fun e he => ⟨e.2, hent e he, .refl _⟩) (Nat.le_trans (claimL_length_le ..) (by decide))⟩

end Coset
