/-
  COSE_KDF_Context and its parts (PartyInfo, SuppPubInfo).  What each emits is an equation; what each decoder accepts, an equivalence:
  slot by slot (`supp_ok_iff` in Shapes.lean, `kdf_ok_iff`), for PartyInfo against the emitted value (`party_ok_iff`).  From the two:
  the value emitted for a decode result is the decoded value itself (`…_emit`), and a well-formed built one is read back from what it
  emits (`…_rt`).
-/
import CosetProofs.Roundtrip.BuiltHeader
import CosetProofs.Roundtrip.Reemit
namespace Coset
open Coset.Spec

def PartyInfo.WF (p : PartyInfo) : Prop := ∀ n, p.nonce = some (.integer n) → i64Min ≤ n ∧ n ≤ i64Max

theorem PartyInfo.toValue_eq (p : PartyInfo) :
    p.toValue = .ok (.array [optBytesToValue p.identity, nonceValue p.nonce, optBytesToValue p.other]) := by
  obtain ⟨ident, nonce, other⟩ := p
  cases nonce with
  | none => rfl
  | some nn => cases nn <;> rfl

theorem party_ok_iff (v : Value) (p : PartyInfo) : PartyInfo.fromValue v = .ok p ↔ p.toValue = .ok v ∧ p.WF := by
  rw [party_eq, PartyInfo.toValue_eq]; split
  · next x0 x1 x2 =>
    simp only [Res.bind_eq_ok, optBytes_ok, nonceOf_ok, Res.pure_eq, Res.ok.injEq, Value.array.injEq, List.cons.injEq, and_true]
    constructor
    · rintro ⟨_, rfl, _, ⟨rfl, hw⟩, _, rfl, rfl⟩; exact ⟨⟨rfl, rfl, rfl⟩, hw⟩
    · rintro ⟨⟨rfl, rfl, rfl⟩, hw⟩; exact ⟨_, rfl, _, ⟨rfl, hw⟩, _, rfl, rfl⟩
  · next hne =>
    simp only [typeError, reduceCtorEq, Res.ok.injEq, false_iff, not_and]
    intro h; exact absurd h.symm (hne _ _ _)
theorem party_emit (v : Value) (p : PartyInfo) (h : PartyInfo.fromValue v = .ok p) : PartyInfo.toValue p = .ok v := ((party_ok_iff v p).mp h).1

theorem party_rt (p : PartyInfo) (hw : p.WF) : ∃ x, p.toValue = .ok x ∧ PartyInfo.fromValue x = .ok p :=
  ⟨_, PartyInfo.toValue_eq p, (party_ok_iff _ p).mpr ⟨PartyInfo.toValue_eq p, hw⟩⟩

theorem party_reemits : Reemits PartyInfo.fromValue PartyInfo.toValue := .of_emit party_emit

theorem SuppPubInfo.toValue_eq (s : SuppPubInfo) : s.toValue =
    (ProtectedHeader.cborBstr s.protected_).map fun pv => .array (.int s.keyDataLength :: pv :: s.other.toList.map .bytes) := by
  obtain ⟨len, p, other⟩ := s
  simp only [SuppPubInfo.toValue]
  cases ProtectedHeader.cborBstr p <;> cases other <;> rfl

theorem supp_emit (v : Value) (s : SuppPubInfo) (h : SuppPubInfo.fromValue v = .ok s) : SuppPubInfo.toValue s = .ok v := by
  obtain ⟨x1, rfl, hp, _⟩ := (supp_ok_iff v s).mp h
  rw [SuppPubInfo.toValue_eq]; exact Res.map_ok_of (protected_fixed _ _ x1 _ hp)

theorem supp_reemits : Reemits SuppPubInfo.fromValue SuppPubInfo.toValue := .of_emit supp_emit

structure SuppPubInfo.WF (s : SuppPubInfo) : Prop where
  len : 0 ≤ s.keyDataLength ∧ s.keyDataLength ≤ u64Max
  prot : ProtectedHeader.WF maxNest s.protected_

theorem supp_rt (s : SuppPubInfo) (hw : s.WF) :
    ∃ x s', s.toValue = .ok x ∧ SuppPubInfo.fromValue x = .ok s' ∧ s'.keyDataLength = s.keyDataLength ∧ s'.other = s.other ∧
      ProtectedHeader.erase s'.protected_ = ProtectedHeader.erase s.protected_ := by
  obtain ⟨b, p', h1, h2, h3, _⟩ := ph_api_rt s.protected_ hw.prot
  exact ⟨_, ⟨s.keyDataLength, p', s.other⟩, s.toValue_eq ▸ Res.map_ok_of h1, (supp_ok_iff _ _).mpr ⟨.bytes b, rfl, h2, hw.len⟩, rfl, rfl, h3⟩

theorem CoseKdfContext.toValue_eq (k : CoseKdfContext) (xu xv : Value) (hu : k.partyUInfo.toValue = .ok xu) (hv : k.partyVInfo.toValue = .ok xv) :
    k.toValue = k.suppPubInfo.toValue.map fun xs =>
      .array ([RegLabelPriv.value Reg.algorithm k.algorithmId, xu, xv, xs] ++ k.suppPrivInfo.map .bytes) := by
  simp only [CoseKdfContext.toValue, RegLabelPriv.toValue_eq, hu, hv]
  cases k.suppPubInfo.toValue <;> rfl

theorem mapRes_tryAsBytes_ok (xs : List Value) (bs : List Bytes) : mapRes tryAsBytes xs = .ok bs ↔ xs = bs.map .bytes :=
  ⟨fun h => (map_of_mapRes tryAsBytes .bytes (fun v b h => ((tryAsBytes_ok v b).mp h).symm) xs bs h).symm,
   fun h => h ▸ mapRes_roundtrip tryAsBytes .bytes bs fun _ _ => rfl⟩

/-- COSE_KDF_Context = [AlgorithmID, PartyUInfo, PartyVInfo, SuppPubInfo, *bstr], slot by slot. -/
theorem kdf_ok_iff (v : Value) (k : CoseKdfContext) : CoseKdfContext.fromValue v = .ok k ↔
    ∃ x0 x1 x2 x3, v = .array ([x0, x1, x2, x3] ++ k.suppPrivInfo.map .bytes) ∧ RegLabelPriv.fromValue Reg.algorithm x0 = .ok k.algorithmId ∧
      PartyInfo.fromValue x1 = .ok k.partyUInfo ∧ PartyInfo.fromValue x2 = .ok k.partyVInfo ∧ SuppPubInfo.fromValue x3 = .ok k.suppPubInfo := by
  rw [kdf_eq]; split
  · next x0 x1 x2 x3 tail =>
    simp only [Res.bind_eq_ok, mapRes_tryAsBytes_ok, Res.pure_eq, Res.ok.injEq]
    constructor
    · rintro ⟨priv, ht, _, hs, _, hv, _, hu, _, ha, rfl⟩
      exact ⟨_, _, _, _, by rw [List.map_reverse, ← ht, List.reverse_reverse]; rfl, ha, hu, hv, hs⟩
    · rintro ⟨_, _, _, _, hv, ha, hu, hv', hs⟩; cases hv
      exact ⟨k.suppPrivInfo.reverse, by rw [List.map_reverse]; rfl, _, hs, _, hv', _, hu, _, ha, by rw [List.reverse_reverse]⟩
  · next hne => simp only [typeError, reduceCtorEq, false_iff]; rintro ⟨_, _, _, _, h, _⟩; exact hne _ _ _ _ _ h
theorem kdf_emit (v : Value) (k : CoseKdfContext) (h : CoseKdfContext.fromValue v = .ok k) : CoseKdfContext.toValue k = .ok v := by
  obtain ⟨x0, x1, x2, x3, rfl, h0, h1, h2, h3⟩ := (kdf_ok_iff v k).mp h
  rw [k.toValue_eq x1 x2 (party_emit _ _ h1) (party_emit _ _ h2), supp_emit _ _ h3, RegLabelPriv.value_of_fromValue _ _ _ h0]; rfl

theorem kdf_reemits : Reemits CoseKdfContext.fromValue CoseKdfContext.toValue := .of_emit kdf_emit

structure CoseKdfContext.WF (k : CoseKdfContext) : Prop where
  alg : GoodRegPriv Reg.algorithm k.algorithmId
  partyU : k.partyUInfo.WF
  partyV : k.partyVInfo.WF
  supp : k.suppPubInfo.WF

theorem kdf_rt (k : CoseKdfContext) (hw : k.WF) :
    ∃ x k', k.toValue = .ok x ∧ CoseKdfContext.fromValue x = .ok k' ∧ k'.algorithmId = k.algorithmId ∧ k'.partyUInfo = k.partyUInfo ∧
      k'.partyVInfo = k.partyVInfo ∧ k'.suppPrivInfo = k.suppPrivInfo ∧ k'.suppPubInfo.keyDataLength = k.suppPubInfo.keyDataLength ∧
      k'.suppPubInfo.other = k.suppPubInfo.other ∧
      ProtectedHeader.erase k'.suppPubInfo.protected_ = ProtectedHeader.erase k.suppPubInfo.protected_ := by
  obtain ⟨xu, hu1, hu2⟩ := party_rt k.partyUInfo hw.partyU
  obtain ⟨xv, hv1, hv2⟩ := party_rt k.partyVInfo hw.partyV
  obtain ⟨xs, s', hs1, hs2, hs3, hs4, hs5⟩ := supp_rt k.suppPubInfo hw.supp
  exact ⟨_, ⟨k.algorithmId, k.partyUInfo, k.partyVInfo, s', k.suppPrivInfo⟩, k.toValue_eq xu xv hu1 hv1 ▸ Res.map_ok_of hs1,
    (kdf_ok_iff _ _).mpr ⟨_, xu, xv, xs, rfl, RegLabelPriv.roundtrip _ alg_values_nodup _ hw.alg, hu2, hv2, hs2⟩, rfl, rfl, rfl, rfl, hs3, hs4, hs5⟩

end Coset
