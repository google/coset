/-
  The header family re-emits (`Reemits`), at any nesting budget.  An accepted header is read declaratively (`HeaderOf`, C08): its typed
  fields and kept pairs are ones the emitted entries decode back to (`headerLoop_entries`), and each entry other than the counter
  signatures *is* a pair of the wire map.  Counter signatures are re-emitted through the signature decoder one fuel unit below: hence
  the induction on fuel.
-/
import CosetProofs.Roundtrip.ReemitMap
import CosetProofs.Roundtrip.HeaderEmit
import CosetProofs.Props.C08
namespace Coset
open Coset.Spec Coset.Cbor

/-- the counter-signature entry is one of the emitted signatures or the array of all of them. -/
theorem csValue_tame (ss : List CoseSignature) (vs : List Value) (x v : Value) (h : sigsToValues ss = .ok vs)
    (hx : csValue ss = .ok (some x)) (ht : Tame (.array vs) v) : Tame x v := by
  match ss with
  | [] => cases hx
  | [s] =>
    obtain ⟨y, hy, e⟩ := Res.map_eq_ok.mp ((csValue_single s).symm.trans hx)
    cases e
    obtain ⟨y', _, hy', _, rfl⟩ := (mapRes_cons_ok ..).mp (sigsToValues_eq [s] ▸ h)
    cases hy.symm.trans hy'
    exact ht.of_member List.mem_cons_self
  | s :: s2 :: ss =>
    obtain ⟨vs', hvs, e⟩ := Res.map_eq_ok.mp ((csValue_many s s2 ss).symm.trans hx)
    cases e
    cases hvs.symm.trans h
    exact ht

theorem csArm_reemits (d : Nat) (sf : Value → Res CoseSignature) (hsf : Reemits sf CoseSignature.toValue)
    (v : Value) (ss : List CoseSignature) (h : counterSigArm d sf v = .ok ss) :
    ∃ x, csValue ss = .ok (some x) ∧ counterSigArm d sf x = .ok ss ∧ TameOn x v := by
  obtain ⟨hd, hc⟩ := (counterSigArm_ok_iff ..).mp h
  rcases hc with ⟨b, tl, s, rfl, hs, rfl⟩ | ⟨a0, tl, rfl, hm⟩
  · obtain ⟨y, hy, hf, ht⟩ := hsf _ s hs
    obtain ⟨b', tl', rfl⟩ := sig_emits_array s y hy
    exact ⟨_, (csValue_single s).trans (Res.map_ok_of hy), (counterSigArm_ok_iff ..).mpr ⟨hd, .inl ⟨b', tl', s, rfl, hf, rfl⟩⟩, ht⟩
  · obtain ⟨vs, h1, h2, ht⟩ := hsf.array _ ss hm
    rw [← sigsToValues_eq] at h1
    have hne : ss ≠ [] := fun h0 => by simpa [h0] using mapRes_length _ _ _ hm
    obtain ⟨x, hx1, hx2⟩ := csArm_emit d sf hd ss ss vs hne h1 h2
    exact ⟨x, hx1, hx2, fun hn hz => csValue_tame ss vs x _ h1 hx1 (ht hn hz)⟩

section
variable {arm : Value → Res (List CoseSignature)} {ps : List (Label × Value)} {hdr : Header} (hof : HeaderOf arm ps Header.default hdr)
include hof

theorem headerOf_good (hiv : ¬ (hdr.iv ≠ [] ∧ hdr.partialIv ≠ [])) (hnd : (ps.map (·.1)).Nodup) (hlg : ∀ l ∈ ps.map (·.1), LabelGood l) :
    TypedGood hdr.alg hdr.crit hdr.contentType hdr.iv hdr.partialIv ∧ RestGood hdr.rest := by
  obtain ⟨rnd, rin⟩ := filter_untyped stdLabels ps hnd
  refine ⟨⟨fun a ha => ?alg, ?crit, fun c hc => ?ct, hiv⟩, hof.rest ▸ ⟨rnd, fun l hl => (rin l hl).1, fun l hl => hlg l (rin l hl).2⟩⟩
  case alg => obtain ⟨v, hdec⟩ := opt_field_src hof.alg a ha; exact RegLabelPriv.fromValue_good _ v a hdec
  case crit =>
    rcases field_cases hof.crit with ⟨-, C⟩ | ⟨v, -, a, ls, -, -, hdec, C⟩
    · rw [C]; exact fun _ h0 => nomatch h0
    · rw [C]; exact mapRes_forall_mem _ _ (fun v x hx => RegLabel.fromValue_good _ v x hx) a ls hdec
  case ct =>
    rcases field_cases hof.contentType with ⟨-, T⟩ | ⟨v, -, c', hdec, hok, T⟩
    · cases T.symm.trans hc
    · cases hc.symm.trans T; exact ⟨RegLabel.fromValue_good _ _ _ hdec, hok⟩

theorem headerOf_wire : ∀ e ∈ typedL hdr.alg hdr.crit hdr.contentType hdr.keyId hdr.iv hdr.partialIv, e ∈ ps := by
  simp only [typedL, List.forall_mem_append]
  refine ⟨⟨⟨⟨⟨opt_field_wire _ _ _ _ _ (RegLabelPriv.value_of_fromValue _) hof.alg, ?crit⟩, ?ct⟩,
    bytes_field_wire _ _ _ hof.keyId⟩, bytes_field_wire _ _ _ hof.iv⟩, bytes_field_wire _ _ _ hof.partialIv⟩
  case crit =>
    -- each label is written back as the value it was decoded from, so the emitted array is the wire array
    rcases field_cases hof.crit with ⟨-, C⟩ | ⟨v, hl, a, ls, rfl, -, hdec, C⟩
    · rw [C]; exact fun _ h0 => nomatch h0
    · have : hdr.crit = ls := by rw [C]; rfl
      rw [this, map_of_mapRes _ _ (fun v x hx => RegLabel.value_of_fromValue _ v x hx) a ls hdec]
      split
      · exact List.forall_mem_singleton.mpr (mem_of_find_fst hl)
      · exact fun _ h0 => nomatch h0
  case ct =>
    rcases field_cases hof.contentType with ⟨-, T⟩ | ⟨v, hl, c, hdec, -, T⟩
    · rw [T]; exact fun _ h0 => nomatch h0
    · have hm : (Label.int 3, RegLabel.value Reg.coapContentFormat c) ∈ ps := by
        rw [RegLabel.value_of_fromValue _ v c hdec]; exact mem_of_find_fst hl
      rw [T]; exact List.forall_mem_singleton.mpr hm
end

theorem header_reemits_of (n d : Nat) (hsf : Reemits (CoseSignature.fromValue n (d - 1)) CoseSignature.toValue) :
    Reemits (Header.fromValue (n + 1) d) Header.toValue := by
  intro v h hh
  obtain ⟨m, ls, rfl, hk, hnd, hof, hiv⟩ := Props.C08.accepted_is_wellformed n d v h hh
  obtain ⟨hg, hr⟩ := headerOf_good hof hiv (zip_nodup_of_mapRes hk hnd) (zip_forall_of_mapRes Label.fromValue_good hk)
  -- the counter-signature entry: re-emitted by the arm, tame with respect to the wire value under label 7
  obtain ⟨ov, hcs, harm, hcst⟩ : ∃ ov, csValue h.counterSignatures = .ok ov ∧
      ArmOk d (CoseSignature.fromValue n (d - 1)) ov h.counterSignatures ∧
      ∀ x, ov = some x → ∃ w, (Label.int 7, w) ∈ ls.zip (m.map (·.2)) ∧ TameOn x w := by
    rcases field_cases hof.counterSignatures with ⟨-, S⟩ | ⟨w, hl, ss, h1, (h2 : h.counterSignatures = ss)⟩
    · exact ⟨none, by rw [S]; rfl, S, fun _ h0 => nomatch h0⟩
    · obtain ⟨x, hx1, hx2, hx3⟩ := csArm_reemits d _ hsf _ ss h1
      exact ⟨some x, h2 ▸ hx1, h2 ▸ hx2, fun y hy => by cases hy; exact ⟨_, mem_of_find_fst hl, hx3⟩⟩
  have hw := headerOf_wire hof
  obtain ⟨alg, crit, ct, kid, iv, piv, cs, rest⟩ := h
  obtain rfl : rest = (ls.zip (m.map (·.2))).filter fun p => p.1 ∉ stdLabels := hof.rest
  refine ⟨_, Header.toValue_entries _ _ _ _ _ _ _ _ ov hcs hr,
    (header_ok_iff ..).mpr ⟨_, rfl, headerLoop_entries d _ _ _ _ _ _ _ _ _ ov hg harm hr⟩,
    map_tame labelValue_of_fromValue hk _ (List.forall_mem_append.mpr ⟨fun e he => ⟨e.2, hw e he, .refl _⟩, ?csEntry⟩)
      (Nat.le_trans ?count (by decide : 7 ≤ sliceMax))⟩
  case csEntry =>
    cases ov with
    | none => exact fun _ he => nomatch he
    | some x => exact List.forall_mem_singleton.mpr (hcst x rfl)
  case count => simpa [stdLabels] using (typedL_csL_labels alg crit ct kid iv piv ov).length_le

theorem signature_reemits_of (n d : Nat) (hhf : Reemits (Header.fromValue n d) Header.toValue) :
    Reemits (CoseSignature.fromValue (n + 1) d) CoseSignature.toValue := by
  intro v s hs
  obtain ⟨x0, x1, rfl, hp, hu⟩ := (signature_ok_iff n d v s).mp hs
  obtain ⟨y, hy, hf, ht⟩ := hhf x1 _ hu
  exact ⟨.array [x0, y, .bytes s.signature], (CoseSignature.toValue_ok_iff ..).mpr ⟨x0, y, rfl, protected_fixed n d x0 _ hp, hy⟩,
    (signature_ok_iff n d _ s).mpr ⟨x0, y, rfl, hp, hf⟩, TameL.array (.cons (.refl x0) (.cons ht (.refl _)))⟩

theorem reemits_all : ∀ n : Nat,
    (∀ d, Reemits (Header.fromValue n d) Header.toValue) ∧ (∀ d, Reemits (CoseSignature.fromValue n d) CoseSignature.toValue)
  | 0 => ⟨fun d v h hh => by simp [Header.fromValue] at hh, fun d v s hs => by simp [CoseSignature.fromValue] at hs⟩
  | n + 1 => ⟨fun d => header_reemits_of n d ((reemits_all n).2 _), fun d => signature_reemits_of n d ((reemits_all n).1 d)⟩

def HdrFix (f d : Nat) (h : Header) : Prop := ∃ x, Header.toValue h = .ok x ∧ Header.fromValue f d x = .ok h
def SigFixBy (sf : Value → Res CoseSignature) (s : CoseSignature) : Prop :=
  ∃ b tl, CoseSignature.toValue s = .ok (.array (.bytes b :: tl)) ∧ sf (.array (.bytes b :: tl)) = .ok s

theorem fixed_all : ∀ f : Nat,
    (∀ d v h, Header.fromValue f d v = .ok h → HdrFix f d h) ∧
    (∀ d v s, CoseSignature.fromValue f d v = .ok s → SigFixBy (CoseSignature.fromValue f d) s) := by
  refine fun f => ⟨fun d => ((reemits_all f).1 d).fixed, fun d v s hs => ?_⟩
  obtain ⟨y, h1, h2⟩ := ((reemits_all f).2 d).fixed v s hs
  obtain ⟨b, tl, rfl⟩ := sig_emits_array s y h1
  exact ⟨b, tl, h1, h2⟩

theorem hdr_reemits : Reemits hdrFromValue Header.toValue := (reemits_all _).1 _
theorem sig_reemits : Reemits sigFromValue CoseSignature.toValue := (reemits_all _).2 _

end Coset
