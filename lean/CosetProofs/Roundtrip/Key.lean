/-
  COSE_Key / COSE_KeySet at `Value` level: a well-formed key is read back from what it emits (`key_rt`); what the decoder accepts is
  well-formed (`key_decoded_wf`), hence re-emits (`key_reemits`).
-/
import CosetProofs.Roundtrip.ReemitMap
import CosetProofs.Roundtrip.HeaderEmit
import CosetProofs.Roundtrip.SetOrder
import CosetProofs.Props.C10
namespace Coset
open Coset.Spec

abbrev opCmp := RegLabel.cmp Reg.keyOperation
abbrev opVal := RegLabel.value Reg.keyOperation

theorem keyOpsLoop_asc : ∀ (a : List Value) (s0 s : List RegLabel), keyOpsLoop a s0 = .ok s → Asc opCmp s0 → (∀ x ∈ s0, GoodReg Reg.keyOperation x) →
    Asc opCmp s ∧ ∀ x ∈ s, GoodReg Reg.keyOperation x := by
  intro a
  induction a with
  | nil => intro s0 s h h1 h2; cases h; exact ⟨h1, h2⟩
  | cons v vs ih =>
    intro s0 s h h1 h2
    obtain ⟨op, s1, hv, hi, h⟩ := (keyOpsLoop_cons_ok ..).mp h
    exact ih s1 s h (setInsert_asc (RegLabel.cmp_ord Reg.keyOperation) s0 op s1 h1 hi) fun x hx =>
      ((setInsert_mem hi x).mp hx).elim (fun e => e ▸ RegLabel.fromValue_good _ v _ hv) (h2 x)

theorem keyOpsLoop_rebuild : ∀ (ys s0 : List RegLabel), Asc opCmp (s0 ++ ys) → (∀ x ∈ ys, GoodReg Reg.keyOperation x) →
    keyOpsLoop (ys.map opVal) s0 = .ok (s0 ++ ys)
  | [], s0, _, _ => by rw [List.append_nil]; rfl
  | y :: ys, s0, hasc, hg => by
    rw [List.append_cons] at hasc ⊢
    -- `y` is above all of `s0`, so it is inserted at the end
    have hins : setInsert opCmp s0 y = .ok (some (s0 ++ [y])) :=
      setInsert_append (RegLabel.cmp_ord Reg.keyOperation) s0 y fun z hz =>
        (List.pairwise_append.mp (List.pairwise_append.mp hasc).1).2.2 z hz y (List.mem_singleton.mpr rfl)
    exact (keyOpsLoop_cons_ok ..).mpr ⟨y, _, RegLabel.roundtrip _ keyop_values_nodup y (hg y List.mem_cons_self), hins,
      keyOpsLoop_rebuild ys (s0 ++ [y]) hasc fun x hx => hg x (List.mem_cons_of_mem y hx)⟩

/-- the label/value entries for the five common key parameters, in emission order. -/
def keyL (kty : RegLabel) (kid : Bytes) (alg : Option RegLabelPriv) (ops : List RegLabel) (biv : Bytes) : List (Label × Value) :=
  [(Label.int 1, RegLabel.value Reg.keyType kty)] ++
  (if !kid.isEmpty then [(Label.int 2, Value.bytes kid)] else []) ++
  (alg.toList.map fun a => (Label.int 3, RegLabelPriv.value Reg.algorithm a)) ++
  (if !ops.isEmpty then [(Label.int 4, Value.array (ops.map opVal))] else []) ++
  (if !biv.isEmpty then [(Label.int 5, Value.bytes biv)] else [])

structure KeyGood (kty : RegLabel) (alg : Option RegLabelPriv) (ops : List RegLabel) : Prop where
  kty : GoodReg Reg.keyType kty
  alg : ∀ a, alg = some a → GoodRegPriv Reg.algorithm a
  ops : Asc opCmp ops ∧ ∀ x ∈ ops, GoodReg Reg.keyOperation x

theorem fold_keyL (kty kid alg ops biv) (hg : KeyGood kty alg ops) :
    foldRes keyStep (keyL kty kid alg ops biv) CoseKey.default = .ok ⟨kty, kid, alg, ops, biv, []⟩ := by
  have bytes : ∀ b : Bytes, b ≠ [] → tryAsNonemptyBytes (.bytes b) = .ok b := fun b hb => (tryAsNonemptyBytes_ok _ _).mpr ⟨rfl, hb⟩
  unfold keyL
  exact foldRes_append_ok (foldRes_append_ok (foldRes_append_ok (foldRes_append_ok
    (foldRes_single (s' := ⟨kty, [], none, [], [], []⟩)
      ((keyDispatch_kty ..).trans (Res.map_ok_of (RegLabel.roundtrip _ keytype_values_nodup kty hg.kty))))
    (foldRes_listEntry keyStep (.int 2) Value.bytes (fun b => ⟨kty, b, none, [], [], []⟩) kid rfl fun hb =>
      (keyDispatch_kid ..).trans (Res.map_ok_of (bytes kid hb))))
    (foldRes_optEntry keyStep (.int 3) _ (fun o => ⟨kty, kid, o, [], [], []⟩) alg rfl fun a ha =>
      (keyDispatch_alg ..).trans (Res.map_ok_of (RegLabelPriv.roundtrip _ alg_values_nodup a (hg.alg a ha)))))
    (foldRes_listEntry keyStep (.int 4) (fun o => .array (o.map opVal)) (fun o => ⟨kty, kid, alg, o, [], []⟩) ops rfl fun ho =>
      (keyDispatch_ops ..).trans (Res.map_ok_of ((keyOpsOf_ok ..).mpr
        ⟨_, rfl, keyOpsLoop_rebuild ops [] (by simpa using hg.ops.1) hg.ops.2, ho⟩))))
    (foldRes_listEntry keyStep (.int 5) Value.bytes (fun b => ⟨kty, kid, alg, ops, b, []⟩) biv rfl fun hb =>
      (keyDispatch_biv ..).trans (Res.map_ok_of (bytes biv hb)))

structure ParamsGood (ps : List (Label × Value)) : Prop where
  nodup : (ps.map (·.1)).Nodup
  nonstd : ∀ l ∈ ps.map (·.1), l ∉ keyLabels5
  good : ∀ l ∈ ps.map (·.1), LabelGood l

theorem paramsGood_perm {ps ps' : List (Label × Value)} (hp : ParamsGood ps) (h : ps'.Perm ps) : ParamsGood ps' := by
  have hm : (ps'.map (·.1)).Perm (ps.map (·.1)) := h.map (·.1)
  exact ⟨hm.symm.nodup hp.nodup, fun l hl => hp.nonstd l (hm.subset hl), fun l hl => hp.good l (hm.subset hl)⟩

theorem keyLabels5_sublist_std : keyLabels5.Sublist stdLabels := by decide

theorem keyL_labels (kty kid alg ops biv) : List.Sublist ((keyL kty kid alg ops biv).map (·.1)) keyLabels5 := by
  simp only [keyL, List.map_append]
  exact ((((List.Sublist.refl _).append (fst_iteEntry ..)).append (fst_optEntry ..)).append (fst_iteEntry ..)).append (fst_iteEntry ..)

/-- `CoseKey::to_cbor_value` in one line, for every key. -/
theorem CoseKey.toValue_eq_finish (kty kid alg ops biv ps) :
    CoseKey.toValue ⟨kty, kid, alg, ops, biv, ps⟩ = headerFinish (pairsToValue (keyL kty kid alg ops biv)) ps := by
  unfold CoseKey.toValue
  -- before the `let`s are unfolded (each accumulator occurs twice in the next): every conditional push is an append
  simp -zeta only [← apply_ite Res.ok, ite_push, RegLabel.toValue_eq, RegLabelPriv.toValue_eq, regLabelsToValues, RegLabel.mapRes_toValue]
  cases alg <;>
    simp only [keyL, headerFinish, pairsToValue_append, pairsToValue_ite, pairsToValue_cons, Option.toList_none, Option.toList_some, List.map_nil,
      List.map_cons, List.append_assoc, List.nil_append, List.cons_append] <;> rfl

theorem CoseKey.toValue_entries (kty kid alg ops biv ps) (hp : ParamsGood ps) :
    CoseKey.toValue ⟨kty, kid, alg, ops, biv, ps⟩ = .ok (.map (pairsToValue (keyL kty kid alg ops biv ++ ps))) := by
  rw [CoseKey.toValue_eq_finish]
  exact headerFinish_ok keyLabels5 _ ps (keyL_labels ..).subset hp.nodup hp.nonstd

theorem CoseKey.toValue_inv (k : CoseKey) (x : Value) (h : k.toValue = .ok x) :
    x = .map (pairsToValue (keyL k.kty k.keyId k.alg k.keyOps k.baseIv ++ k.params)) := by
  obtain ⟨kty, kid, alg, ops, biv, ps⟩ := k
  rw [CoseKey.toValue_eq_finish] at h
  exact headerFinish_inv h

theorem keyLoop_entries (kty kid alg ops biv ps) (hg : KeyGood kty alg ops) (hp : ParamsGood ps) :
    keyLoop (pairsToValue (keyL kty kid alg ops biv ++ ps)) CoseKey.default [] = .ok ⟨kty, kid, alg, ops, biv, ps⟩ := by
  rw [keyLoop_eq_gen]
  exact genLoop_entries label_loop_hyps.1 label_loop_hyps.2 labelValue keyLabels5 (CoseKey.mk kty kid alg ops biv) (by decide)
    (keyL_labels ..) (fun l hl => Label.roundtrip l (stdLabels_good l (keyLabels5_sublist_std.subset hl))) hp.nodup hp.nonstd
    (fun l hl => Label.roundtrip l (hp.good l hl)) (fold_keyL kty kid alg ops biv hg) fun r l v hl => keyDispatch_other l v _ hl

/-- a key the encoder accepts and the decoder takes back: registry labels valid, key type not the reserved value (the decoder's
    "missing kty" sentinel), `key_ops` a set in iteration order, extra parameters distinct and not among the five common labels. -/
structure CoseKey.WF (k : CoseKey) : Prop where
  good : KeyGood k.kty k.alg k.keyOps
  params : ParamsGood k.params
  kty : k.kty ≠ .assigned ktyReservedIdx

theorem key_rt (k : CoseKey) (hw : k.WF) :
    k.toValue = .ok (.map (pairsToValue (keyL k.kty k.keyId k.alg k.keyOps k.baseIv ++ k.params))) ∧
    CoseKey.fromValue (.map (pairsToValue (keyL k.kty k.keyId k.alg k.keyOps k.baseIv ++ k.params))) = .ok k := by
  obtain ⟨kty, kid, alg, ops, biv, ps⟩ := k
  exact ⟨CoseKey.toValue_entries kty kid alg ops biv ps hw.params,
    (key_ok_iff ..).mpr ⟨_, rfl, keyLoop_entries kty kid alg ops biv ps hw.good hw.params, hw.kty⟩⟩

/-- `key_ops` re-emits the items of the wire array, re-sorted. -/
theorem keyOps_tame (a : List Value) (s : List RegLabel) (h : keyOpsLoop a [] = .ok s) : TameOn (.array (s.map opVal)) (.array a) := by
  obtain ⟨ops, hops, hlen, hmem⟩ := Coset.Props.C10.key_ops_set a [] s h
  have hsrc : ∀ y ∈ s.map opVal, y ∈ a := by
    rw [← map_of_mapRes _ opVal (RegLabel.value_of_fromValue _) a ops hops]
    exact fun y hy => let ⟨x, hx, e⟩ := List.mem_map.mp hy; List.mem_map.mpr ⟨x, ((hmem x).mp hx).resolve_right List.not_mem_nil, e⟩
  exact fun hn _ => array_tame _ a hn (by simp [hlen]) fun y hy => members_within a hn y (hsrc y hy)

section
variable {ps : List (Label × Value)} {k : CoseKey} (ko : KeyOf keyOpsLoop ps CoseKey.default k) (hnd : (ps.map (·.1)).Nodup)
  {w : Value} (hw : lookupL (.int 1) ps = some w)
include ko hnd hw

theorem keyOf_kty : RegLabel.fromValue Reg.keyType w = .ok k.kty := by
  obtain ⟨t, hdec, hkty⟩ := field_of_mem hnd (mem_of_find_fst hw) ko.kty
  exact hkty ▸ hdec

theorem keyOf_good (hlg : ∀ l ∈ ps.map (·.1), LabelGood l) : KeyGood k.kty k.alg k.keyOps ∧ ParamsGood k.params := by
  obtain ⟨pnd, pin⟩ := filter_untyped keyLabels5 ps hnd
  refine ⟨⟨?kty, fun a ha => ?alg, ?ops⟩, ko.params ▸ ⟨pnd, fun l hl => (pin l hl).1, fun l hl => hlg l (pin l hl).2⟩⟩
  case kty => exact RegLabel.fromValue_good _ w _ (keyOf_kty ko hnd hw)
  case alg => obtain ⟨v, hdec⟩ := opt_field_src ko.alg a ha; exact RegLabelPriv.fromValue_good _ v a hdec
  case ops =>
    rcases field_cases ko.keyOps with ⟨-, O⟩ | ⟨v, -, a, s, -, hloop, -, hops⟩
    · rw [O]; exact ⟨List.Pairwise.nil, nofun⟩
    · exact hops ▸ keyOpsLoop_asc a [] s hloop List.Pairwise.nil nofun

/-- every emitted entry is a pair the decoder read, except `key_ops`. -/
theorem keyOf_wire : ∀ e ∈ keyL k.kty k.keyId k.alg k.keyOps k.baseIv, ∃ w, (e.1, w) ∈ ps ∧ TameOn e.2 w := by
  have wire : ∀ e ∈ ps, ∃ w, (e.1, w) ∈ ps ∧ TameOn e.2 w := fun e he => ⟨e.2, he, .refl _⟩
  simp only [keyL, List.forall_mem_append, List.forall_mem_singleton]
  refine ⟨⟨⟨⟨?kty, fun e he => wire e (bytes_field_wire _ _ _ ko.keyId e he)⟩,
    fun e he => wire e (opt_field_wire _ _ _ _ _ (RegLabelPriv.value_of_fromValue _) ko.alg e he)⟩, ?ops⟩,
    fun e he => wire e (bytes_field_wire _ _ _ ko.baseIv e he)⟩
  case kty => rw [RegLabel.value_of_fromValue _ w _ (keyOf_kty ko hnd hw)]; exact wire _ (mem_of_find_fst hw)
  case ops =>
    rcases field_cases ko.keyOps with ⟨-, O⟩ | ⟨v, hl, a, s, rfl, hloop, -, hops⟩
    · rw [O]; simp [CoseKey.default]
    · rw [hops]
      split
      · exact List.forall_mem_singleton.mpr ⟨.array a, mem_of_find_fst hl, keyOps_tame a s hloop⟩
      · exact fun _ he => nomatch he
end

theorem key_decoded_wf (v : Value) (k : CoseKey) (h : CoseKey.fromValue v = .ok k) : k.WF :=
  let ⟨_, _, _, hls, hnd, ko, hres, _, hw⟩ := Coset.Props.C10.accepted_is_wellformed v k h
  let ⟨hg, hp⟩ := keyOf_good ko (zip_nodup_of_mapRes hls hnd) hw (zip_forall_of_mapRes Label.fromValue_good hls)
  ⟨hg, hp, hres⟩

/-- `ps'`: e.g. a re-ordering of the extras; the `kty` check after the loop depends only on the typed fields. -/
theorem key_accepted_good (v : Value) (k : CoseKey) (h : CoseKey.fromValue v = .ok k) :
    KeyGood k.kty k.alg k.keyOps ∧ ParamsGood k.params ∧
    ∀ ps', ParamsGood ps' → CoseKey.fromValue (.map (pairsToValue (keyL k.kty k.keyId k.alg k.keyOps k.baseIv ++ ps'))) =
      .ok ⟨k.kty, k.keyId, k.alg, k.keyOps, k.baseIv, ps'⟩ :=
  have hw := key_decoded_wf v k h
  ⟨hw.good, hw.params, fun ps' hp' => (key_rt ⟨k.kty, k.keyId, k.alg, k.keyOps, k.baseIv, ps'⟩ ⟨hw.good, hp', hw.kty⟩).2⟩

theorem keyL_length_le (kty kid alg ops biv) : (keyL kty kid alg ops biv).length ≤ 5 := by
  simpa [keyLabels5] using (keyL_labels kty kid alg ops biv).length_le

theorem key_reemits : Reemits CoseKey.fromValue CoseKey.toValue := by
  intro v k h
  obtain ⟨m, ls, rfl, hls, hnd, ko, -, w, hw⟩ := Coset.Props.C10.accepted_is_wellformed v k h
  have rt := key_rt k (key_decoded_wf _ k h)
  have hent := keyOf_wire ko (zip_nodup_of_mapRes hls hnd) hw
  obtain ⟨kty, kid, alg, ops, biv, ps⟩ := k
  obtain rfl : ps = (ls.zip (m.map (·.2))).filter fun p => p.1 ∉ keyLabels5 := ko.params
  exact ⟨_, rt.1, rt.2, map_tame labelValue_of_fromValue hls _ hent (Nat.le_trans (keyL_length_le ..) (by decide))⟩

theorem key_fixed (v : Value) (k : CoseKey) (h : CoseKey.fromValue v = .ok k) : ∃ x, k.toValue = .ok x ∧ CoseKey.fromValue x = .ok k :=
  key_reemits.fixed v k h

theorem keyset_reemits : Reemits CoseKeySet.fromValue CoseKeySet.toValue := by
  intro v ks h
  obtain ⟨a, rfl, ha⟩ := (Coset.Props.C10.keyset_iff v ks).mp h
  obtain ⟨ys, h1, h2, t⟩ := key_reemits.array a ks ha
  exact ⟨.array ys, by simp [CoseKeySet.toValue, h1], (Coset.Props.C10.keyset_iff _ ks).mpr ⟨ys, rfl, h2⟩, t⟩

end Coset
