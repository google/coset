/-
  Re-emission for the three map decoders (header, key, claims set).  Each folds over the wire map's values zipped with its decoded
  keys; these pairs are pairs of the wire map (`zip_wire`).  What it re-emits is a few typed entries, each tame on the value read
  under the same key, followed by pairs it kept: `map_tame` finds such a map no worse than the wire map.
-/
import CosetProofs.Roundtrip.Reemit
import CosetProofs.FieldFold
namespace Coset
open Coset.Spec Coset.Cbor

theorem zip_wire {α : Type} (f : Value → Res α) (g : α → Value) (hfg : ∀ k a, f k = .ok a → g a = k)
    (m : List (Value × Value)) (ns : List α) (h : mapRes f (m.map (·.1)) = .ok ns) : ∀ p ∈ ns.zip (m.map (·.2)), (g p.1, p.2) ∈ m := by
  intro p hp
  have : (g p.1, p.2) ∈ (ns.map g).zip (m.map (·.2)) := by
    rw [List.zip_map_left]; exact List.mem_map.mpr ⟨p, hp, rfl⟩
  rwa [map_of_mapRes f g hfg _ ns h, List.zip_map', List.map_id'] at this

theorem zip_forall_of_mapRes {α : Type} {f : Value → Res α} {P : α → Prop} (hf : ∀ k a, f k = .ok a → P a) {m : List (Value × Value)}
    {ns : List α} (h : mapRes f (m.map (·.1)) = .ok ns) : ∀ n ∈ (ns.zip (m.map (·.2))).map (·.1), P n :=
  (zip_fst_of_mapRes f m ns h).symm ▸ mapRes_forall_mem f P hf _ ns h

theorem kept_length_le {α : Type} (ns : List α) (m : List (Value × Value)) (q : α × Value → Bool) :
    ((ns.zip (m.map (·.2))).filter q).length ≤ m.length :=
  Nat.le_trans (List.length_filter_le _ _) (by simp only [List.length_zip, List.length_map]; exact Nat.min_le_right _ _)

/-- `f` reads the keys, `kf` writes them back; `hl`: no more entries of its own than a slice has bytes. -/
theorem map_tame {α : Type} {f : Value → Res α} {kf : α → Value} (hfg : ∀ k a, f k = .ok a → kf a = k) {m : List (Value × Value)}
    {ns : List α} (hns : mapRes f (m.map (·.1)) = .ok ns) (q : α × Value → Bool) {typed : List (α × Value)}
    (hent : ∀ e ∈ typed, ∃ w, (e.1, w) ∈ ns.zip (m.map (·.2)) ∧ TameOn e.2 w) (hl : typed.length ≤ sliceMax) :
    TameOn (.map ((typed ++ (ns.zip (m.map (·.2))).filter q).map fun e => (kf e.1, e.2))) (.map m) := by
  intro hn hz
  have hwire := zip_wire f kf hfg m ns hns
  have gm := entries_within m hn
  simp only [Value.size] at hz
  show Within (depthOf (.map m)) _
  rw [depthOf_map]
  refine pairs_within kf _ _ ?_ (List.forall_mem_append.mpr ⟨fun e he => ?_, fun e he => gm _ (hwire e (List.mem_filter.mp he).1)⟩)
  · have := length_le_sizeP m
    have := kept_length_le ns m q
    rw [List.length_append]; unfold sliceMax at hz hl; omega
  · obtain ⟨w, hmw, ht⟩ := hent e he
    have gw := gm _ (hwire _ hmw)
    have : (kf e.1).size + w.size ≤ Value.sizeP m := sizeP_mem _ m (hwire _ hmw)
    exact ⟨gw.1, Within.mono (ht gw.2.1 (by omega)) gw.2.2⟩

end Coset
