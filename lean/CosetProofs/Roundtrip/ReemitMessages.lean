/-
  The six message types and COSE_recipient re-emit (`Reemits`).  Every message is an array that starts with the two header slots: the protected slot
  is re-emitted as it came, the unprotected one by `hdr_reemits`, and the members after them either as they came or, for nested
  signatures / recipients, member by member.
-/
import CosetProofs.Roundtrip.ReemitHeader
namespace Coset
open Coset.Spec Coset.Cbor

theorem slots_reemit (x0 x1 : Value) (p : ProtectedHeader) (u : Header) (hp : phFromBstr x0 = .ok p) (hu : hdrFromValue x1 = .ok u) :
    ∃ y1, headerSlots p u = .ok [x0, y1] ∧ hdrFromValue y1 = .ok u ∧
      ∀ tl' tl, TameL tl' tl → TameOn (.array (x0 :: y1 :: tl')) (.array (x0 :: x1 :: tl)) := by
  obtain ⟨y1, h1, h2, h3⟩ := hdr_reemits x1 u hu
  exact ⟨y1, (headerSlots_ok_iff ..).mpr ⟨x0, y1, rfl, protected_fixed _ _ x0 p hp, h1⟩, h2, fun _ _ t => (TameL.cons (.refl x0) (.cons h3 t)).array⟩

theorem sign1_reemits : Reemits CoseSign1.fromValue CoseSign1.toValue := by
  intro v m h
  obtain ⟨x0, x1, x2, rfl, hp, hu, ho⟩ := (sign1_ok_iff v m).mp h
  obtain ⟨y1, hs, hy, ht⟩ := slots_reemit x0 x1 _ _ hp hu
  exact ⟨_, by rw [m.toValue_eq, hs, (optBytes_ok x2 _).mp ho]; rfl, (sign1_ok_iff _ m).mpr ⟨x0, y1, x2, rfl, hp, hy, ho⟩, ht _ _ (.refl _)⟩

theorem mac0_reemits : Reemits CoseMac0.fromValue CoseMac0.toValue := by
  intro v m h
  obtain ⟨x0, x1, x2, rfl, hp, hu, ho⟩ := (mac0_ok_iff v m).mp h
  obtain ⟨y1, hs, hy, ht⟩ := slots_reemit x0 x1 _ _ hp hu
  exact ⟨_, by rw [m.toValue_eq, hs, (optBytes_ok x2 _).mp ho]; rfl, (mac0_ok_iff _ m).mpr ⟨x0, y1, x2, rfl, hp, hy, ho⟩, ht _ _ (.refl _)⟩

theorem encrypt0_reemits : Reemits CoseEncrypt0.fromValue CoseEncrypt0.toValue := by
  intro v m h
  obtain ⟨x0, x1, x2, rfl, hp, hu, ho⟩ := (encrypt0_ok_iff v m).mp h
  obtain ⟨y1, hs, hy, ht⟩ := slots_reemit x0 x1 _ _ hp hu
  exact ⟨_, by rw [m.toValue_eq, hs, (optBytes_ok x2 _).mp ho]; rfl, (encrypt0_ok_iff _ m).mpr ⟨x0, y1, x2, rfl, hp, hy, ho⟩, ht _ _ (.refl _)⟩

theorem sign_reemits : Reemits CoseSign.fromValue CoseSign.toValue := by
  intro v m h
  obtain ⟨x0, x1, x2, sigs, rfl, hp, hu, ho, hs⟩ := (sign_ok_iff v m).mp h
  obtain ⟨y1, hsl, hy, ht⟩ := slots_reemit x0 x1 _ _ hp hu
  obtain ⟨ys, h1, h2, t⟩ := (sig_reemits.mapErr .unexpectedItem).array sigs _ hs
  exact ⟨_, by rw [m.toValue_eq, hsl, sigsToValues_eq, h1, (optBytes_ok x2 _).mp ho]; rfl,
    (sign_ok_iff _ m).mpr ⟨x0, y1, x2, ys, rfl, hp, hy, ho, h2⟩, ht _ _ (.cons (.refl x2) (.cons t (.nil _)))⟩

theorem recipient_fuel (n : Nat) : ∀ (v : Value) (r : CoseRecipient), CoseRecipient.fromValue n v = .ok r →
    ∀ n', v.size < n' → CoseRecipient.fromValue n' v = .ok r := by
  induction n with
  | zero => intro v r h; simp [CoseRecipient.fromValue] at h
  | succ n ih =>
    intro v ⟨p, u, ct, rcps⟩ h n' hn'
    obtain ⟨n', rfl⟩ : ∃ k, n' = k + 1 := ⟨n' - 1, by omega⟩
    rw [recipient_ok_iff] at h ⊢
    refine h.imp id fun ⟨x0, x1, x2, rs, hv, hp, hu, ho, hrs⟩ => ⟨x0, x1, x2, rs, hv, hp, hu, ho, ?_⟩
    subst hv
    simp only [Value.size, Value.sizeL] at hn'
    exact mapRes_ok_mono (fun w hw a ha => ih w a ha n' (by have := sizeL_mem w rs hw; omega)) hrs

/-- the emitted value is decoded again with the same fuel. -/
theorem recipient_reemits (n : Nat) : Reemits (CoseRecipient.fromValue n) CoseRecipient.toValue := by
  induction n with
  | zero => intro v r h; simp [CoseRecipient.fromValue] at h
  | succ n ih =>
    intro v ⟨p, u, ct, rcps⟩ h
    rcases (recipient_ok_iff n v p u ct rcps).mp h with ⟨x0, x1, x2, rfl, hp, hu, ho, rfl⟩ | ⟨x0, x1, x2, rs, rfl, hp, hu, ho, hrs⟩
    · obtain ⟨y1, hs, hy, ht⟩ := slots_reemit x0 x1 _ _ hp hu
      exact ⟨_, by rw [CoseRecipient.toValue_nil, hs, (optBytes_ok x2 _).mp ho]; rfl,
        (recipient_ok_iff n _ p u ct []).mpr (.inl ⟨x0, y1, x2, rfl, hp, hy, ho, rfl⟩), ht _ _ (.refl _)⟩
    · obtain ⟨y1, hs, hy, ht⟩ := slots_reemit x0 x1 _ _ hp hu
      obtain ⟨ys, h1, h2, t⟩ := ih.array rs rcps hrs
      cases rcps with
      | nil =>
        -- an empty nested array is left out on re-emission
        exact ⟨.array [x0, y1, x2], by rw [CoseRecipient.toValue_nil, hs, (optBytes_ok x2 _).mp ho]; rfl,
          (recipient_ok_iff n _ p u ct []).mpr (.inl ⟨x0, y1, x2, rfl, hp, hy, ho, rfl⟩), ht _ _ (.cons (.refl x2) (.nil _))⟩
      | cons r0 rcps' =>
        exact ⟨.array [x0, y1, x2, .array ys], by rw [CoseRecipient.toValue_cons, hs, recipientsToValues_eq, h1, (optBytes_ok x2 _).mp ho]; rfl,
          (recipient_ok_iff n _ p u ct _).mpr (.inr ⟨x0, y1, x2, ys, rfl, hp, hy, ho, h2⟩), ht _ _ (.cons (.refl x2) (.cons t (.nil _)))⟩

theorem rcp_reemits : Reemits rcpFromValue CoseRecipient.toValue := fun v r h =>
  let ⟨y, h1, h2, h3⟩ := recipient_reemits _ v r h
  ⟨y, h1, recipient_fuel _ y r h2 _ (Nat.lt_succ_self _), h3⟩

theorem encrypt_reemits : Reemits CoseEncrypt.fromValue CoseEncrypt.toValue := by
  intro v m h
  obtain ⟨x0, x1, x2, rs, rfl, hp, hu, ho, hs⟩ := (encrypt_ok_iff v m).mp h
  obtain ⟨y1, hsl, hy, ht⟩ := slots_reemit x0 x1 _ _ hp hu
  obtain ⟨ys, h1, h2, t⟩ := rcp_reemits.array rs _ hs
  exact ⟨_, by rw [m.toValue_eq, hsl, recipientsToValues_eq, h1, (optBytes_ok x2 _).mp ho]; rfl,
    (encrypt_ok_iff _ m).mpr ⟨x0, y1, x2, ys, rfl, hp, hy, ho, h2⟩, ht _ _ (.cons (.refl x2) (.cons t (.nil _)))⟩

theorem mac_reemits : Reemits CoseMac.fromValue CoseMac.toValue := by
  intro v m h
  obtain ⟨x0, x1, x2, rs, rfl, hp, hu, ho, hs⟩ := (mac_ok_iff v m).mp h
  obtain ⟨y1, hsl, hy, ht⟩ := slots_reemit x0 x1 _ _ hp hu
  obtain ⟨ys, h1, h2, t⟩ := rcp_reemits.array rs _ hs
  exact ⟨_, by rw [m.toValue_eq, hsl, recipientsToValues_eq, h1, (optBytes_ok x2 _).mp ho]; rfl,
    (mac_ok_iff _ m).mpr ⟨x0, y1, x2, ys, rfl, hp, hy, ho, h2⟩, ht _ _ (.cons (.refl x2) (.cons (.refl _) (.cons t (.nil _))))⟩

end Coset
