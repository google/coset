/-
  Re-emission.  `Reemits f g`: whatever the decoder `f` accepted, the emitter `g` turns into a value that `f` takes back to the same
  result (C07 at `Value` level) and that is no worse than the wire value `v` (`TameOn`): if `v` is `Normal` and small enough to have
  come out of a Rust slice, the emitted value is `Normal` too and nests no deeper.  The second half carries the fixed point to byte
  level with no condition on the emitted value: L1 (the parser inverts the serializer on `Normal` values within the recursion budget)
  applies to it because L7 says it applied to `v`.  Both halves read the same shape off `f v = .ok a`, so each decoder is walked once.
  A protected header needs no walk: it emits the byte string it was decoded from (`protected_fixed`, from C02).
-/
import CosetProofs.Roundtrip.Within
import CosetProofs.Cbor.Weight
import CosetProofs.Props.C02
namespace Coset
open Coset.Spec Coset.Cbor

/-- `x` is at least as well-behaved as the wire value `v` it was re-emitted for. -/
def Tame (x v : Value) : Prop := Normal x ∧ depthOf x ≤ depthOf v

/-- size bound of anything that came out of a Rust slice (`len ≤ isize::MAX`). -/
def sliceMax : Nat := 2 ^ 63

def TameOn (y v : Value) : Prop := Normal v → v.size < sliceMax → Tame y v

theorem TameOn.refl (v : Value) : TameOn v v := fun hn _ => ⟨hn, Nat.le_refl _⟩

def Reemits {α : Type} (f : Value → Res α) (g : α → Res Value) : Prop :=
  ∀ v a, f v = .ok a → ∃ y, g a = .ok y ∧ f y = .ok a ∧ TameOn y v

/-- the second half of `Reemits` on its own, as `C07.bytes_fixed` takes it. -/
def TameConv {α : Type} (f : Value → Res α) (g : α → Res Value) : Prop :=
  ∀ v a, f v = .ok a → Normal v → v.size < sliceMax → ∃ y, g a = .ok y ∧ Tame y v

namespace Reemits
variable {α : Type} {f : Value → Res α} {g : α → Res Value}

theorem fixed (h : Reemits f g) (v : Value) (a : α) (hv : f v = .ok a) : ∃ y, g a = .ok y ∧ f y = .ok a :=
  let ⟨y, h1, h2, _⟩ := h v a hv; ⟨y, h1, h2⟩

theorem tame (h : Reemits f g) : TameConv f g := fun v a hv hn hz => let ⟨y, h1, _, h3⟩ := h v a hv; ⟨y, h1, h3 hn hz⟩

/-- a decoder whose results emit the very value they were decoded from (the KDF context and its parts). -/
theorem of_emit (h : ∀ v a, f v = .ok a → g a = .ok v) : Reemits f g := fun v a hv => ⟨v, h v a hv, hv, .refl v⟩

theorem mapErr (h : Reemits f g) (e : CoseErr) : Reemits (fun v => (f v).mapErr e) g := fun v a hv =>
  let ⟨y, h1, h2, h3⟩ := h v a (Res.mapErr_eq_ok.mp hv)
  ⟨y, h1, Res.mapErr_eq_ok.mpr h2, h3⟩

end Reemits

theorem wire_members (xs : List Value) (hn : Normal (.array xs)) (hz : (Value.array xs).size < sliceMax) :
    ∀ x ∈ xs, Within (depthOfL xs) x ∧ x.size < sliceMax := by
  intro x hx
  have := sizeL_mem x xs hx
  simp only [Value.size] at hz
  exact ⟨members_within xs hn x hx, by omega⟩

theorem array_tame (ys vs : List Value) (hn : Normal (.array vs)) (hl : ys.length ≤ vs.length) (h : ∀ y ∈ ys, Within (depthOfL vs) y) :
    Tame (.array ys) (.array vs) := by
  simp only [Normal] at hn
  show Within (depthOf (.array vs)) _
  rw [depthOf_array]
  exact (within_array _ ys).mpr ⟨Nat.lt_of_le_of_lt hl hn.1, h⟩

theorem Tame.of_member {ys : List Value} {y v : Value} (h : Tame (.array ys) v) (hy : y ∈ ys) : Tame y v := by
  obtain ⟨hn, hd⟩ := h
  rw [depthOf_array] at hd
  exact (members_within ys hn y hy).mono (by omega)

/-- the members of a wire array re-emitted one for one, the last ones possibly left out. -/
inductive TameL : List Value → List Value → Prop
  | nil (vs : List Value) : TameL [] vs
  | cons {y v : Value} {ys vs : List Value} : TameOn y v → TameL ys vs → TameL (y :: ys) (v :: vs)

theorem TameL.refl : ∀ vs, TameL vs vs
  | [] => .nil []
  | v :: vs => .cons (.refl v) (TameL.refl vs)

theorem TameL.members {ys vs : List Value} (h : TameL ys vs) (k : Nat) (hv : ∀ v ∈ vs, Within k v ∧ v.size < sliceMax) :
    ys.length ≤ vs.length ∧ ∀ y ∈ ys, Within k y := by
  induction h with
  | nil => exact ⟨Nat.zero_le _, fun _ h => nomatch h⟩
  | cons t _ ih =>
    obtain ⟨⟨w, z⟩, hv'⟩ := List.forall_mem_cons.mp hv
    obtain ⟨hl, hy⟩ := ih hv'
    exact ⟨Nat.succ_le_succ hl, List.forall_mem_cons.mpr ⟨Within.mono (t w.1 z) w.2, hy⟩⟩

theorem TameL.array {ys vs : List Value} (h : TameL ys vs) : TameOn (.array ys) (.array vs) := fun hn hz =>
  let ⟨hl, hy⟩ := h.members _ (wire_members vs hn hz)
  array_tame ys vs hn hl hy

namespace Reemits
variable {α : Type} {f : Value → Res α} {g : α → Res Value}

theorem list (hr : Reemits f g) (vs : List Value) : ∀ as : List α,
    mapRes f vs = .ok as → ∃ ys, mapRes g as = .ok ys ∧ mapRes f ys = .ok as ∧ TameL ys vs := by
  induction vs with
  | nil => intro _ h; cases h; exact ⟨[], rfl, rfl, .nil _⟩
  | cons v vs ih =>
    intro _ h
    obtain ⟨a, as, ha, has, rfl⟩ := (mapRes_cons_ok ..).mp h
    obtain ⟨ys, h1, h2, t⟩ := ih as has
    obtain ⟨y, hy1, hy2, ty⟩ := hr v a ha
    exact ⟨y :: ys, (mapRes_cons_ok ..).mpr ⟨y, ys, hy1, h1, rfl⟩, (mapRes_cons_ok ..).mpr ⟨a, as, hy2, h2, rfl⟩, .cons ty t⟩

theorem array (hr : Reemits f g) (vs : List Value) (as : List α) (h : mapRes f vs = .ok as) :
    ∃ ys, mapRes g as = .ok ys ∧ mapRes f ys = .ok as ∧ TameOn (.array ys) (.array vs) :=
  let ⟨ys, h1, h2, t⟩ := hr.list vs as h
  ⟨ys, h1, h2, t.array⟩

end Reemits

/-- a list emitted element by element (`gs`, by `hnil` / `hcons`): if what `f` decoded emits values with `Q`, a decoded list emits
    a list of such values, and a decoder `f'` that reads back every `Q`-value emitted reads back the list. -/
theorem list_fixed_mem {α : Type} (f : Value → Res α) (g : α → Res Value) (gs : List α → Res (List Value)) (f' : Value → Res α)
    (hnil : gs [] = .ok [])
    (hcons : ∀ a as y ys, g a = .ok y → gs as = .ok ys → gs (a :: as) = .ok (y :: ys))
    (Q : Value → Prop)
    (hfix : ∀ v a, f v = .ok a → ∃ y, g a = .ok y ∧ Q y) :
    ∀ (vs : List Value) (as : List α), mapRes f vs = .ok as → ∃ ys, gs as = .ok ys ∧ ys.length = as.length ∧ (∀ y ∈ ys, Q y) ∧
      ((∀ y a, Q y → g a = .ok y → f' y = .ok a) → mapRes f' ys = .ok as) := by
  intro vs
  induction vs with
  | nil => intro as h; cases h; exact ⟨[], hnil, rfl, by simp, fun _ => rfl⟩
  | cons v vs ih =>
    intro as h
    obtain ⟨a, as', ha, has, rfl⟩ := (mapRes_cons_ok ..).mp h
    obtain ⟨ys, h1, hl, h2, h3⟩ := ih as' has
    obtain ⟨y, hy1, hy2⟩ := hfix v a ha
    refine ⟨y :: ys, hcons a as' y ys hy1 h1, by simp [hl], List.forall_mem_cons.mpr ⟨hy2, h2⟩, fun hq => ?_⟩
    exact (mapRes_cons_ok ..).mpr ⟨a, as', hq y a hy2 hy1, h3 hq, rfl⟩

theorem protected_fixed (n d : Nat) (v : Value) (p : ProtectedHeader) (hp : ProtectedHeader.fromBstr n d v = .ok p) :
    ProtectedHeader.cborBstr p = .ok v :=
  let ⟨data, hv, ho⟩ := Coset.Props.C02.decode_retains n d v p hp
  hv ▸ cborBstr_of_orig p data ho

end Coset
