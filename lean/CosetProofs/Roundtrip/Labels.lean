/-
  The three label types (`Label`, `RegisteredLabel<T>`, `RegisteredLabelWithPrivate<T>`): the value each is written as, the labels a
  decoder can have produced (`LabelGood`, `GoodReg`, `GoodRegPriv`), and the two directions between them — what was decoded stands
  for the wire value and is good (`of_fromValue`); a good label is read back from its value (`roundtrip`).
-/
import CosetProofs.Props.C17
import CosetProofs.Res
namespace Coset
open Coset.Props.C17

/-- the key a label is written as (`Label::to_cbor_value`, which cannot fail). -/
def labelValue : Label → Value
  | .int i => .int i
  | .text t => .text t

/-- labels a decoder can have produced (integers within i64). -/
def LabelGood : Label → Prop
  | .int i => i64Min ≤ i ∧ i ≤ i64Max
  | .text _ => True

theorem labelValue_inj {a b : Label} (h : labelValue a = labelValue b) : a = b := by cases a <;> cases b <;> cases h <;> rfl

theorem Label.toValue_eq (l : Label) : Label.toValue l = .ok (labelValue l) := by cases l <;> rfl

theorem Label.of_fromValue (v : Value) (l : Label) (h : Label.fromValue v = .ok l) : labelValue l = v ∧ LabelGood l := by
  cases v with
  | int i =>
    cases hn : narrowI64 i with
    | ok n =>
      obtain ⟨hr, rfl⟩ := narrowI64_ok.mp hn
      simp only [Label.fromValue, hn] at h; cases h; exact ⟨rfl, hr⟩
    | _ => simp [Label.fromValue, hn] at h
  | text t => simp [Label.fromValue] at h; subst h; exact ⟨rfl, trivial⟩
  | _ => simp [Label.fromValue, typeError] at h

theorem labelValue_of_fromValue (k : Value) (l : Label) (h : Label.fromValue k = .ok l) : labelValue l = k := (Label.of_fromValue k l h).1
theorem Label.fromValue_good (v : Value) (l : Label) (h : Label.fromValue v = .ok l) : LabelGood l := (Label.of_fromValue v l h).2

theorem Label.roundtrip (l : Label) (h : LabelGood l) : Label.fromValue (labelValue l) = .ok l := by
  cases l with
  | int i => simp [labelValue, Label.fromValue, narrowI64_ok.mpr ⟨h, rfl⟩]
  | text t => rfl

def GoodReg (R : Registry) : RegLabel → Prop
  | .assigned k => k < R.rows.length ∧ i64Min ≤ R.toI64 k ∧ R.toI64 k ≤ i64Max
  | .text _ => True

def GoodRegPriv (R : Registry) : RegLabelPriv → Prop
  | .assigned k => k < R.rows.length ∧ i64Min ≤ R.toI64 k ∧ R.toI64 k ≤ i64Max
  | .privateUse i => R.fromI64 i = none ∧ R.private? i = true ∧ i64Min ≤ i ∧ i ≤ i64Max
  | .text _ => True

theorem RegLabel.toValue_eq (R : Registry) (l : RegLabel) : RegLabel.toValue R l = .ok (RegLabel.value R l) := by cases l <;> rfl
theorem RegLabelPriv.toValue_eq (R : Registry) (l : RegLabelPriv) : RegLabelPriv.toValue R l = .ok (RegLabelPriv.value R l) := by cases l <;> rfl

theorem RegLabel.of_fromValue (R : Registry) (v : Value) (l : RegLabel) (h : RegLabel.fromValue R v = .ok l) :
    RegLabel.value R l = v ∧ GoodReg R l := by
  cases v with
  | int i =>
    by_cases hi : i64Min ≤ i ∧ i ≤ i64Max
    · cases hf : R.fromI64 i with
      | some k =>
        cases ((classify_registered R i hi).1 k hf).symm.trans h
        have ht := to_from R i k hf
        exact ⟨congrArg Value.int ht, fromI64_lt R i k hf, ht ▸ hi⟩
      | none => cases ((classify_registered R i hi).2 hf).symm.trans h
    · cases (classify_out_of_range R i hi).1.symm.trans h
  | text t => cases (classify_text R t).1.symm.trans h; exact ⟨rfl, trivial⟩
  | _ => cases h

theorem RegLabelPriv.of_fromValue (R : Registry) (v : Value) (l : RegLabelPriv) (h : RegLabelPriv.fromValue R v = .ok l) :
    RegLabelPriv.value R l = v ∧ GoodRegPriv R l := by
  cases v with
  | int i =>
    by_cases hi : i64Min ≤ i ∧ i ≤ i64Max
    · obtain ⟨assigned, priv, other⟩ := classify_with_private R i hi
      cases hf : R.fromI64 i with
      | some k =>
        cases (assigned k hf).symm.trans h
        have ht := to_from R i k hf
        exact ⟨congrArg Value.int ht, fromI64_lt R i k hf, ht ▸ hi⟩
      | none =>
        cases hp : R.private? i with
        | true => cases (priv hf hp).symm.trans h; exact ⟨rfl, hf, hp, hi⟩
        | false => cases (other hf hp).symm.trans h
    · cases (classify_out_of_range R i hi).2.symm.trans h
  | text t => cases (classify_text R t).2.symm.trans h; exact ⟨rfl, trivial⟩
  | _ => cases h

theorem RegLabel.value_of_fromValue (R : Registry) (v : Value) (l : RegLabel) (h : RegLabel.fromValue R v = .ok l) :
    RegLabel.value R l = v := (RegLabel.of_fromValue R v l h).1
theorem RegLabelPriv.value_of_fromValue (R : Registry) (v : Value) (l : RegLabelPriv) (h : RegLabelPriv.fromValue R v = .ok l) :
    RegLabelPriv.value R l = v := (RegLabelPriv.of_fromValue R v l h).1

theorem RegLabel.fromValue_good (R : Registry) (v : Value) (l : RegLabel) (h : RegLabel.fromValue R v = .ok l) : GoodReg R l :=
  (RegLabel.of_fromValue R v l h).2
theorem RegLabelPriv.fromValue_good (R : Registry) (v : Value) (l : RegLabelPriv) (h : RegLabelPriv.fromValue R v = .ok l) : GoodRegPriv R l :=
  (RegLabelPriv.of_fromValue R v l h).2

theorem alg_values_nodup : (Reg.algorithm.rows.map (·.2)).Nodup := all_values_nodup _ (by simp [Reg.all])
theorem hp_values_nodup : (Reg.headerParameter.rows.map (·.2)).Nodup := all_values_nodup _ (by simp [Reg.all])
theorem coap_values_nodup : (Reg.coapContentFormat.rows.map (·.2)).Nodup := all_values_nodup _ (by simp [Reg.all])
theorem keytype_values_nodup : (Reg.keyType.rows.map (·.2)).Nodup := all_values_nodup _ (by simp [Reg.all])
theorem keyop_values_nodup : (Reg.keyOperation.rows.map (·.2)).Nodup := all_values_nodup _ (by simp [Reg.all])
theorem cwt_values_nodup : (Reg.cwtClaimName.rows.map (·.2)).Nodup := all_values_nodup _ (by simp [Reg.all])

theorem RegLabel.roundtrip (R : Registry) (hnd : (R.rows.map (·.2)).Nodup) (l : RegLabel) (h : GoodReg R l) :
    RegLabel.fromValue R (RegLabel.value R l) = .ok l := by
  cases l with
  | assigned k => exact (classify_registered R _ h.2).1 k (from_to R hnd k h.1)
  | text t => rfl

theorem RegLabelPriv.roundtrip (R : Registry) (hnd : (R.rows.map (·.2)).Nodup) (l : RegLabelPriv) (h : GoodRegPriv R l) :
    RegLabelPriv.fromValue R (RegLabelPriv.value R l) = .ok l := by
  cases l with
  | assigned k => exact (classify_with_private R _ h.2).1 k (from_to R hnd k h.1)
  | privateUse i => exact (classify_with_private R i h.2.2).2.1 h.1 h.2.1
  | text t => rfl

theorem RegLabel.mapRes_toValue (R : Registry) (ls : List RegLabel) : mapRes (RegLabel.toValue R) ls = .ok (ls.map (RegLabel.value R)) :=
  mapRes_ok_map _ _ ls fun l _ => RegLabel.toValue_eq R l

end Coset
