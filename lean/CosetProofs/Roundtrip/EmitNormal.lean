/-
  What a *built* value emits is a value the serializer represents faithfully, within the parser's recursion budget — derived from
  conditions on the fields (`…NF`), not assumed of the emitted value.  The conditions are what Rust's types already guarantee (a
  `String` is valid UTF-8, a `Vec` length fits `u64`, an `i64` is an `i64`) plus, for the uninterpreted `Value`s a caller puts into
  extra parameters, that they are themselves `Normal` and shallow enough.  Every statement is about whatever was emitted, read off
  the emitter member by member (`Within`).  Two residues: a built protected header's `NF` bounds the length of its serialised map,
  and for claims sets and the KDF context the integer ranges are those of `WF` (Claims.lean, KdfContext.lean), so their lemmas take both.
-/
import CosetProofs.Roundtrip.BuiltMessages
import CosetProofs.Roundtrip.KdfContext
import CosetProofs.Roundtrip.Key
import CosetProofs.Roundtrip.Claims
namespace Coset
open Coset.Spec Coset.Cbor

/-- a text held in a Rust `String`: valid UTF-8, length a `u64`. -/
def TextOK (t : Bytes) : Prop := Utf8.valid t = true ∧ t.length < 2 ^ 64

def LabelN : Label → Prop
  | .int i => i64Min ≤ i ∧ i ≤ i64Max
  | .text t => TextOK t
def RegN (R : Registry) : RegLabel → Prop
  | .assigned k => i64Min ≤ R.toI64 k ∧ R.toI64 k ≤ i64Max
  | .text t => TextOK t
def RegPrivN (R : Registry) : RegLabelPriv → Prop
  | .assigned k => i64Min ≤ R.toI64 k ∧ R.toI64 k ≤ i64Max
  | .privateUse i => i64Min ≤ i ∧ i ≤ i64Max
  | .text t => TextOK t

theorem within_int (i : Int) (h : i64Min ≤ i ∧ i ≤ i64Max) (k : Nat) : Within k (.int i) :=
  ⟨by simp only [Normal]; unfold i64Min i64Max at h; omega, by simp [depthOf]⟩
theorem within_text (t : Bytes) (h : TextOK t) (k : Nat) : Within k (.text t) := ⟨by simp only [Normal]; exact ⟨h.2, h.1⟩, by simp [depthOf]⟩
theorem within_bytes (b : Bytes) (h : b.length < 2 ^ 64) (k : Nat) : Within k (.bytes b) := ⟨by simp only [Normal]; exact h, by simp [depthOf]⟩

theorem within_labelValue (l : Label) (h : LabelN l) (k : Nat) : Within k (labelValue l) := by
  cases l with
  | int i => exact within_int i h k
  | text t => exact within_text t h k

theorem within_stdLabel {l : Label} (h : l ∈ stdLabels) (k : Nat) : Within k (labelValue l) := by
  have hg := stdLabels_good l h
  cases l with
  | int i => exact within_int i hg k
  | text t => simp [stdLabels] at h

theorem within_regValue (R : Registry) (l : RegLabel) (h : RegN R l) (k : Nat) : Within k (RegLabel.value R l) := by
  cases l with
  | assigned n => exact within_int _ h k
  | text t => exact within_text t h k

theorem within_regPrivValue (R : Registry) (l : RegLabelPriv) (h : RegPrivN R l) (k : Nat) : Within k (RegLabelPriv.value R l) := by
  cases l with
  | assigned n => exact within_int _ h k
  | privateUse i => exact within_int _ h k
  | text t => exact within_text t h k

theorem within_optBytes (o : Option Bytes) (h : ∀ b, o = some b → b.length < 2 ^ 64) (k : Nat) : Within k (optBytesToValue o) := by
  cases o with
  | none => exact ⟨by simp [optBytesToValue, Normal], by simp [optBytesToValue, depthOf]⟩
  | some b => exact within_bytes b (h b rfl) k

/-- an array of registry labels (`crit`, `key_ops`), emitted only when non-empty: it takes one level of the budget. -/
theorem within_regArray (R : Registry) (ls : List RegLabel) (k : Nat)
    (h : (∀ l ∈ ls, RegN R l) ∧ ls.length < 2 ^ 64 ∧ (ls ≠ [] → 1 ≤ k)) (hne : (!ls.isEmpty) = true) :
    Within k (.array (ls.map (RegLabel.value R))) := by
  obtain ⟨k', rfl⟩ : ∃ k', k = k' + 1 := ⟨k - 1, by have := h.2.2 (by intro h0; simp [h0] at hne); omega⟩
  exact (within_array k' _).mpr ⟨by simpa using h.2.1, List.forall_mem_map.mpr fun l hl => within_regValue R l (h.1 l hl) k'⟩

theorem forall_mem_ite {α : Type} (c : Prop) [Decidable c] (x : α) (P : α → Prop) : (∀ e ∈ (if c then [x] else []), P e) ↔ (c → P x) := by
  by_cases h : c <;> simp [h]

/-- the six simple typed fields of a header; `k` is the nesting budget left for the values of the header map. -/
structure TypedN (k : Nat) (alg : Option RegLabelPriv) (crit : List RegLabel) (ct : Option RegLabel) (kid iv piv : Bytes) : Prop where
  alg : ∀ a, alg = some a → RegPrivN Reg.algorithm a
  crit : (∀ l ∈ crit, RegN Reg.headerParameter l) ∧ crit.length < 2 ^ 64 ∧ (crit ≠ [] → 1 ≤ k)
  ct : ∀ c, ct = some c → RegN Reg.coapContentFormat c
  lens : kid.length < 2 ^ 64 ∧ iv.length < 2 ^ 64 ∧ piv.length < 2 ^ 64

/-- the extra parameters: labels as above, values `Normal` and within the budget; `+ 8` leaves room in the map's length for the
    entries that come before them (at most seven: labels 1–7). -/
def RestN (k : Nat) (rest : List (Label × Value)) : Prop :=
  rest.length + 8 < 2 ^ 64 ∧ ∀ p ∈ rest, LabelN p.1 ∧ Normal p.2 ∧ depthOf p.2 ≤ k

theorem typedL_entries (k : Nat) (alg crit ct kid iv piv) (h : TypedN k alg crit ct kid iv piv) :
    ∀ e ∈ typedL alg crit ct kid iv piv, Within k (labelValue e.1) ∧ Within k e.2 := by
  have vals : ∀ e ∈ typedL alg crit ct kid iv piv, Within k e.2 := by
    simp only [typedL, List.forall_mem_append, List.forall_mem_map, Option.mem_toList, forall_mem_ite]
    exact ⟨⟨⟨⟨⟨fun a ha => within_regPrivValue _ a (h.alg a ha) k, fun hc => within_regArray _ crit k h.crit hc⟩,
      fun c hc => within_regValue _ c (h.ct c hc) k⟩, fun _ => within_bytes _ h.lens.1 k⟩,
      fun _ => within_bytes _ h.lens.2.1 k⟩, fun _ => within_bytes _ h.lens.2.2 k⟩
  exact fun e he => ⟨within_stdLabel (((typedL_labels ..).trans (by decide)).subset (List.mem_map_of_mem he)) k, vals e he⟩

mutual
/-- field-level normality of a header whose map's values may nest `k` levels. -/
def Header.NF : Nat → Header → Prop
  | k, .mk alg crit ct kid iv piv cs rest => TypedN k alg crit ct kid iv piv ∧ RestN k rest ∧ csNF k cs
/-- the counter-signature entry: nothing, one signature inline (budget `k`), or an array of them (budget `k - 1` each). -/
def csNF : Nat → List CoseSignature → Prop
  | _, [] => True
  | k, [s] => CoseSignature.NF k s
  | k, s :: s2 :: ss => 1 ≤ k ∧ (s :: s2 :: ss).length < 2 ^ 64 ∧ CoseSignature.NF (k - 1) s ∧ CoseSignature.NF (k - 1) s2 ∧ sigsNF (k - 1) ss
def sigsNF : Nat → List CoseSignature → Prop
  | _, [] => True
  | j, s :: ss => CoseSignature.NF j s ∧ sigsNF j ss
/-- a signature emitted with nesting budget `j` for the three-element array. -/
def CoseSignature.NF : Nat → CoseSignature → Prop
  | j, .mk p u sg => 2 ≤ j ∧ ProtectedHeader.NF p ∧ Header.NF (j - 2) u ∧ sg.length < 2 ^ 64
/-- a protected header emits a byte string: the stored bytes, the empty string, or the serialised map — of `u64` length. -/
def ProtectedHeader.NF : ProtectedHeader → Prop
  | .mk (some d) _ => d.length < 2 ^ 64
  | .mk none h => h.isEmpty = true ∨ ∃ x, Header.toValue h = .ok x ∧ (enc x).length < 2 ^ 64
end

theorem ph_emit_within (p : ProtectedHeader) (hn : ProtectedHeader.NF p) (b : Value) (hb : ProtectedHeader.cborBstr p = .ok b) (k : Nat) :
    Within k b := by
  obtain ⟨_ | d, h⟩ := p <;> simp only [ProtectedHeader.NF] at hn
  · cases he : h.isEmpty
    · rw [cborBstr_built_nonempty h he] at hb
      obtain ⟨x, hx, rfl⟩ := Res.map_eq_ok.mp hb
      obtain hn | ⟨x', hx', hl⟩ := hn
      · rw [he] at hn; cases hn
      · cases hx.symm.trans hx'; exact within_bytes _ hl k
    · rw [cborBstr_built_empty h he] at hb; cases hb; exact within_bytes [] (by simp) k
  · cases hb; exact within_bytes d hn k

theorem sigsNF_iff (j : Nat) : ∀ ss, sigsNF j ss ↔ ∀ s ∈ ss, CoseSignature.NF j s
  | [] => by simp [sigsNF]
  | s :: ss => by simp [sigsNF, sigsNF_iff j ss]

theorem nested_within {α : Type} (g : α → Res Value) (j : Nat) (as : List α) (ys : List Value) (h : mapRes g as = .ok ys)
    (hl : as.length < 2 ^ 64) (hg : ∀ a ∈ as, ∀ y, g a = .ok y → Within j y) : Within (j + 1) (.array ys) :=
  (within_array j ys).mpr ⟨mapRes_length g as ys h ▸ hl, fun y hy => let ⟨a, ha, hay⟩ := mapRes_mem g as ys h y hy; hg a ha y hay⟩

/-- a signature, given the headers two levels below. -/
theorem sig_emit_within (j : Nat) (hH : ∀ i, i + 2 = j → ∀ u x, Header.NF i u → Header.toValue u = .ok x → Within (i + 1) x)
    (s : CoseSignature) (x : Value) (hn : CoseSignature.NF j s) (hx : s.toValue = .ok x) : Within j x := by
  obtain ⟨p, u, sg⟩ := s
  simp only [CoseSignature.NF] at hn
  obtain ⟨hj, hpn, hun, hsg⟩ := hn
  obtain ⟨i, rfl⟩ : ∃ i, j = i + 2 := ⟨j - 2, by omega⟩
  obtain ⟨pv, uv, rfl, hp, hu⟩ := (CoseSignature.toValue_ok_iff _ x).mp hx
  refine (within_array (i + 1) _).mpr ⟨by simp, ?_⟩
  simp only [List.forall_mem_cons]
  exact ⟨ph_emit_within p hpn _ hp _, hH i rfl u uv hun hu, within_bytes sg hsg _, fun _ h => nomatch h⟩

/-- a header, given the signatures at its own budget (one counter signature, inline) and one level below (an array of them). -/
theorem hdr_emit_within (k : Nat) (hS : ∀ s x, CoseSignature.NF k s → s.toValue = .ok x → Within k x)
    (hS' : ∀ k', k' + 1 = k → ∀ s x, CoseSignature.NF k' s → s.toValue = .ok x → Within k' x)
    (h : Header) (x : Value) (hn : Header.NF k h) (hx : h.toValue = .ok x) : Within (k + 1) x := by
  obtain ⟨alg, crit, ct, kid, iv, piv, cs, rest⟩ := h
  simp only [Header.NF] at hn
  obtain ⟨htn, hrn, hcn⟩ := hn
  obtain ⟨ov, hv, rfl⟩ := Header.toValue_inv _ _ _ _ _ _ _ _ x hx
  have hce : ∀ e ∈ csL ov, Within k (labelValue e.1) ∧ Within k e.2 := by
    have l7 : Within k (labelValue (.int 7)) := within_stdLabel (by decide) k
    match cs, hcn, hv with
    | [], _, hv => cases hv; exact fun _ he => nomatch he
    | [s0], hcn, hv =>
      obtain ⟨y, hy, rfl⟩ := Res.map_eq_ok.mp ((csValue_single s0).symm.trans hv)
      exact List.forall_mem_singleton.mpr ⟨l7, hS s0 y hcn hy⟩
    | s0 :: s1 :: ss, ⟨hk1, hlen, n0, n1, nss⟩, hv =>
      obtain ⟨vs, hvs, rfl⟩ := Res.map_eq_ok.mp ((csValue_many s0 s1 ss).symm.trans hv)
      obtain ⟨k', rfl⟩ : ∃ k', k = k' + 1 := ⟨k - 1, by omega⟩
      exact List.forall_mem_singleton.mpr ⟨l7, nested_within _ k' _ vs (sigsToValues_eq _ ▸ hvs) hlen fun s hs y hy =>
        hS' k' rfl s y ((sigsNF_iff k' (s0 :: s1 :: ss)).mp ⟨n0, n1, nss⟩ s hs) hy⟩
  refine pairs_within labelValue k _ ?_ ?_
  · have h7 := (typedL_csL_labels alg crit ct kid iv piv ov).length_le
    have := hrn.1
    simp only [stdLabels, List.length_map, List.length_cons, List.length_nil] at h7
    rw [entries, List.length_append]; omega
  · simp only [entries, List.forall_mem_append]
    exact ⟨⟨typedL_entries k _ _ _ _ _ _ htn, hce⟩, fun e he => ⟨within_labelValue e.1 (hrn.2 e he).1 k, (hrn.2 e he).2⟩⟩

theorem emit_within (n : Nat) : (∀ s x, CoseSignature.NF n s → s.toValue = .ok x → Within n x) ∧
    (∀ h x, Header.NF n h → h.toValue = .ok x → Within (n + 1) x) := by
  induction n using Nat.strongRecOn with
  | _ n ih =>
    have hS := sig_emit_within n fun i hi => (ih i (by omega)).2
    exact ⟨hS, hdr_emit_within n hS fun k' hk => (ih k' (by omega)).1⟩

/-- every message: the two header slots (the unprotected header's values may nest `k` levels), then members within budget `j`. -/
theorem slots_emit_within (p : ProtectedHeader) (u : Header) (k j : Nat) (hpn : ProtectedHeader.NF p) (hun : Header.NF k u)
    (sl : List Value) (hs : headerSlots p u = .ok sl) (tl : List Value) (hl : tl.length + 2 < 2 ^ 64)
    (ht : ∀ y ∈ tl, Within (max (k + 1) j) y) : Within (max (k + 1) j + 1) (.array (sl ++ tl)) := by
  obtain ⟨pv, uv, rfl, h1, h2⟩ := (headerSlots_ok_iff p u sl).mp hs
  refine (within_array _ _).mpr ⟨by simpa using hl, ?_⟩
  simp only [List.cons_append, List.nil_append, List.forall_mem_cons]
  exact ⟨ph_emit_within p hpn _ h1 _, ((emit_within k).2 u uv hun h2).mono (Nat.le_max_left _ _), ht⟩

/-- what the three single-layer messages emit is `Normal` and within the budget (the form `through_serializer` asks for). -/
theorem sign1_emitted_normal (m : CoseSign1) (k : Nat) (hk : k + 2 ≤ recursionLimit)
    (hpn : ProtectedHeader.NF m.protected_) (hun : Header.NF k m.unprotected)
    (hpl : ∀ b, m.payload = some b → b.length < 2 ^ 64) (hsg : m.signature.length < 2 ^ 64) (x : Value) (hx : m.toValue = .ok x) :
    Normal x ∧ depthOf x ≤ recursionLimit := by
  obtain ⟨sl, hs, rfl⟩ := Res.map_eq_ok.mp (m.toValue_eq ▸ hx)
  refine (slots_emit_within _ _ k 0 hpn hun sl hs _ (by simp) ?_).mono (by omega)
  simp only [List.forall_mem_cons]
  exact ⟨within_optBytes _ hpl _, within_bytes _ hsg _, fun _ h => nomatch h⟩

theorem mac0_emitted_normal (m : CoseMac0) (k : Nat) (hk : k + 2 ≤ recursionLimit)
    (hpn : ProtectedHeader.NF m.protected_) (hun : Header.NF k m.unprotected)
    (hpl : ∀ b, m.payload = some b → b.length < 2 ^ 64) (htg : m.tag.length < 2 ^ 64) (x : Value) (hx : m.toValue = .ok x) :
    Normal x ∧ depthOf x ≤ recursionLimit := by
  obtain ⟨sl, hs, rfl⟩ := Res.map_eq_ok.mp (m.toValue_eq ▸ hx)
  refine (slots_emit_within _ _ k 0 hpn hun sl hs _ (by simp) ?_).mono (by omega)
  simp only [List.forall_mem_cons]
  exact ⟨within_optBytes _ hpl _, within_bytes _ htg _, fun _ h => nomatch h⟩

theorem encrypt0_emitted_normal (m : CoseEncrypt0) (k : Nat) (hk : k + 2 ≤ recursionLimit)
    (hpn : ProtectedHeader.NF m.protected_) (hun : Header.NF k m.unprotected)
    (hct : ∀ b, m.ciphertext = some b → b.length < 2 ^ 64) (x : Value) (hx : m.toValue = .ok x) :
    Normal x ∧ depthOf x ≤ recursionLimit := by
  obtain ⟨sl, hs, rfl⟩ := Res.map_eq_ok.mp (m.toValue_eq ▸ hx)
  refine (slots_emit_within _ _ k 0 hpn hun sl hs _ (by simp) ?_).mono (by omega)
  simp only [List.forall_mem_cons]
  exact ⟨within_optBytes _ hct _, fun _ h => nomatch h⟩

theorem sign_emitted_normal (m : CoseSign) (k j : Nat) (hk : k + 2 ≤ recursionLimit) (hj : j + 2 ≤ recursionLimit)
    (hpn : ProtectedHeader.NF m.protected_) (hun : Header.NF k m.unprotected) (hsn : sigsNF j m.signatures)
    (hsl : m.signatures.length < 2 ^ 64) (hpl : ∀ b, m.payload = some b → b.length < 2 ^ 64) (x : Value) (hx : m.toValue = .ok x) :
    Normal x ∧ depthOf x ≤ recursionLimit := by
  obtain ⟨sl, hs, hx⟩ := Res.bind_eq_ok.mp (m.toValue_eq ▸ hx)
  obtain ⟨vs, hv, rfl⟩ := Res.map_eq_ok.mp hx
  refine (slots_emit_within _ _ k (j + 1) hpn hun sl hs _ (by simp) ?_).mono (by omega)
  simp only [List.forall_mem_cons]
  exact ⟨within_optBytes _ hpl _, (nested_within _ j _ vs (sigsToValues_eq _ ▸ hv) hsl fun s hs y hy =>
    (emit_within j).1 s y ((sigsNF_iff j _).mp hsn s hs) hy).mono (Nat.le_max_right _ _), fun _ h => nomatch h⟩

mutual
/-- field-level normality of a recipient emitted with nesting budget `j` for its array. -/
def CoseRecipient.NF : Nat → CoseRecipient → Prop
  | j, .mk p u ct rs => 2 ≤ j ∧ ProtectedHeader.NF p ∧ Header.NF (j - 2) u ∧ (∀ b, ct = some b → b.length < 2 ^ 64) ∧
      rs.length < 2 ^ 64 ∧ rcpsNF (j - 2) rs
def rcpsNF : Nat → List CoseRecipient → Prop
  | _, [] => True
  | j, r :: rs => CoseRecipient.NF j r ∧ rcpsNF j rs
end

theorem rcpsNF_iff (j : Nat) : ∀ rs, rcpsNF j rs ↔ ∀ r ∈ rs, CoseRecipient.NF j r
  | [] => by simp [rcpsNF]
  | r :: rs => by simp [rcpsNF, rcpsNF_iff j rs]

/-- by induction on the budget: nested recipients have two levels less. -/
theorem recipient_emit_within (j : Nat) : ∀ (r : CoseRecipient) (x : Value), CoseRecipient.NF j r → r.toValue = .ok x → Within j x := by
  induction j using Nat.strongRecOn with
  | _ j ih =>
    intro ⟨p, u, ct, rs⟩ x hn hx
    simp only [CoseRecipient.NF] at hn
    obtain ⟨hj, hpn, hun, hct, hrl, hrn⟩ := hn
    obtain ⟨i, rfl⟩ : ∃ i, j = i + 2 := ⟨j - 2, by omega⟩
    cases rs with
    | nil =>
      obtain ⟨sl, hs, rfl⟩ := Res.map_eq_ok.mp (CoseRecipient.toValue_nil p u ct ▸ hx)
      refine (slots_emit_within p u i (i + 1) hpn hun sl hs _ (by simp) ?_).mono (by omega)
      simp only [List.forall_mem_cons]
      exact ⟨within_optBytes _ hct _, fun _ h => nomatch h⟩
    | cons r0 rs0 =>
      obtain ⟨sl, hs, hx⟩ := Res.bind_eq_ok.mp (CoseRecipient.toValue_cons p u ct r0 rs0 ▸ hx)
      obtain ⟨ys, hy, rfl⟩ := Res.map_eq_ok.mp hx
      rw [List.append_assoc]
      refine (slots_emit_within p u i (i + 1) hpn hun sl hs _ (by simp) ?_).mono (by omega)
      simp only [List.cons_append, List.nil_append, List.forall_mem_cons]
      exact ⟨within_optBytes _ hct _, (nested_within _ i _ ys (recipientsToValues_eq _ ▸ hy) hrl fun r hr y hy =>
        ih i (by omega) r y ((rcpsNF_iff _ _).mp hrn r hr) hy).mono (Nat.le_max_right _ _), fun _ h => nomatch h⟩

theorem encrypt_emitted_normal (m : CoseEncrypt) (k j : Nat) (hk : k + 2 ≤ recursionLimit) (hj : j + 2 ≤ recursionLimit)
    (hpn : ProtectedHeader.NF m.protected_) (hun : Header.NF k m.unprotected) (hrn : rcpsNF j m.recipients)
    (hrl : m.recipients.length < 2 ^ 64) (hct : ∀ b, m.ciphertext = some b → b.length < 2 ^ 64) (x : Value) (hx : m.toValue = .ok x) :
    Normal x ∧ depthOf x ≤ recursionLimit := by
  obtain ⟨sl, hs, hx⟩ := Res.bind_eq_ok.mp (m.toValue_eq ▸ hx)
  obtain ⟨ys, hy, rfl⟩ := Res.map_eq_ok.mp hx
  refine (slots_emit_within _ _ k (j + 1) hpn hun sl hs _ (by simp) ?_).mono (by omega)
  simp only [List.forall_mem_cons]
  exact ⟨within_optBytes _ hct _, (nested_within _ j _ ys (recipientsToValues_eq _ ▸ hy) hrl fun r hr y hy =>
    recipient_emit_within j r y ((rcpsNF_iff j _).mp hrn r hr) hy).mono (Nat.le_max_right _ _), fun _ h => nomatch h⟩

theorem mac_emitted_normal (m : CoseMac) (k j : Nat) (hk : k + 2 ≤ recursionLimit) (hj : j + 2 ≤ recursionLimit)
    (hpn : ProtectedHeader.NF m.protected_) (hun : Header.NF k m.unprotected) (hrn : rcpsNF j m.recipients)
    (hrl : m.recipients.length < 2 ^ 64) (hpl : ∀ b, m.payload = some b → b.length < 2 ^ 64) (htg : m.tag.length < 2 ^ 64)
    (x : Value) (hx : m.toValue = .ok x) : Normal x ∧ depthOf x ≤ recursionLimit := by
  obtain ⟨sl, hs, hx⟩ := Res.bind_eq_ok.mp (m.toValue_eq ▸ hx)
  obtain ⟨ys, hy, rfl⟩ := Res.map_eq_ok.mp hx
  refine (slots_emit_within _ _ k (j + 1) hpn hun sl hs _ (by simp) ?_).mono (by omega)
  simp only [List.forall_mem_cons]
  exact ⟨within_optBytes _ hpl _, within_bytes _ htg _, (nested_within _ j _ ys (recipientsToValues_eq _ ▸ hy) hrl fun r hr y hy =>
    recipient_emit_within j r y ((rcpsNF_iff j _).mp hrn r hr) hy).mono (Nat.le_max_right _ _), fun _ h => nomatch h⟩

/-- a single recipient as a standalone message. -/
theorem recipient_emitted_normal (r : CoseRecipient) (j : Nat) (hj : j ≤ recursionLimit) (hw : r.WF) (hn : CoseRecipient.NF j r)
    (x : Value) (hx : r.toValue = .ok x) : Normal x ∧ depthOf x ≤ recursionLimit :=
  (recipient_emit_within j r x hn hx).mono hj

/-- field-level normality of a COSE_Key (`k`: nesting budget for the values of the extra parameters). -/
structure CoseKey.NF (k : Nat) (key : CoseKey) : Prop where
  kty : RegN Reg.keyType key.kty
  alg : ∀ a, key.alg = some a → RegPrivN Reg.algorithm a
  ops : (∀ l ∈ key.keyOps, RegN Reg.keyOperation l) ∧ key.keyOps.length < 2 ^ 64 ∧ (key.keyOps ≠ [] → 1 ≤ k)
  lens : key.keyId.length < 2 ^ 64 ∧ key.baseIv.length < 2 ^ 64
  params : RestN k key.params

theorem key_emit_within (key : CoseKey) (k : Nat) (hn : CoseKey.NF k key) (x : Value) (hx : key.toValue = .ok x) : Within (k + 1) x := by
  cases CoseKey.toValue_inv key x hx
  refine pairs_within labelValue k _ ?_ ?_
  · have := keyL_length_le key.kty key.keyId key.alg key.keyOps key.baseIv
    have := hn.params.1
    rw [List.length_append]; omega
  · have vals : ∀ e ∈ keyL key.kty key.keyId key.alg key.keyOps key.baseIv, Within k e.2 := by
      simp only [keyL, List.forall_mem_append, List.forall_mem_map, List.forall_mem_singleton, Option.mem_toList, forall_mem_ite]
      exact ⟨⟨⟨⟨within_regValue _ _ hn.kty k, fun _ => within_bytes _ hn.lens.1 k⟩, fun a ha => within_regPrivValue _ a (hn.alg a ha) k⟩,
        fun hc => within_regArray _ key.keyOps k hn.ops hc⟩, fun _ => within_bytes _ hn.lens.2 k⟩
    exact List.forall_mem_append.mpr
      ⟨fun e he => ⟨within_stdLabel (((keyL_labels ..).trans keyLabels5_sublist_std).subset (List.mem_map_of_mem he)) k, vals e he⟩,
        fun e he => ⟨within_labelValue e.1 (hn.params.2 e he).1 k, (hn.params.2 e he).2⟩⟩

structure ClaimsSet.NF (k : Nat) (c : ClaimsSet) : Prop where
  texts : (∀ t, c.issuer = some t → TextOK t) ∧ (∀ t, c.subject = some t → TextOK t) ∧ (∀ t, c.audience = some t → TextOK t)
  cti : ∀ b, c.cwtId = some b → b.length < 2 ^ 64
  rest : c.rest.length + 8 < 2 ^ 64 ∧ ∀ p ∈ c.rest, RegPrivN Reg.cwtClaimName p.1 ∧ Normal p.2 ∧ depthOf p.2 ≤ k

theorem typedClaims_N : ∀ n ∈ typedClaims, RegPrivN Reg.cwtClaimName n := by
  intro n hn
  -- each typed claim is `.assigned _`, of which `GoodRegPriv` and `RegPrivN` ask the same range
  have hg := typedClaims_good n hn
  simp only [typedClaims, List.mem_cons, List.not_mem_nil, or_false] at hn
  rcases hn with rfl | rfl | rfl | rfl | rfl | rfl | rfl <;> exact And.right hg

theorem within_tsValue (t : Timestamp) (h : GoodTs t) (k : Nat) : Within k (tsValue t) := by
  cases t with
  | wholeSeconds n => exact within_int n h k
  | fractionalSeconds f => exact ⟨by simp [tsValue, Normal], by simp [tsValue, depthOf]⟩

theorem claims_emit_within (c : ClaimsSet) (k : Nat) (hw : c.WF) (hn : ClaimsSet.NF k c) (x : Value) (hx : c.toValue = .ok x) :
    Within (k + 1) x := by
  cases (claims_rt c hw).1.symm.trans hx
  have tn : ∀ n ∈ typedClaims, Within k (nameVal n) := fun n hn' => within_regPrivValue _ n (typedClaims_N n hn') k
  simp only [typedClaims, List.forall_mem_cons] at tn
  obtain ⟨t1, t2, t3, t4, t5, t6, t7, _⟩ := tn
  refine pairs_within nameVal k _ ?_ ?_
  · have := claimL_length_le c.issuer c.subject c.audience c.expirationTime c.notBefore c.issuedAt c.cwtId
    have := hn.rest.1
    rw [List.length_append]; omega
  · simp only [claimL, List.forall_mem_append, List.forall_mem_map, Option.mem_toList]
    exact ⟨⟨⟨⟨⟨⟨⟨fun t ht => ⟨t1, within_text t (hn.texts.1 t ht) k⟩, fun t ht => ⟨t2, within_text t (hn.texts.2.1 t ht) k⟩⟩,
      fun t ht => ⟨t3, within_text t (hn.texts.2.2 t ht) k⟩⟩, fun t ht => ⟨t4, within_tsValue t (hw.times.exp t ht) k⟩⟩,
      fun t ht => ⟨t5, within_tsValue t (hw.times.nbf t ht) k⟩⟩, fun t ht => ⟨t6, within_tsValue t (hw.times.iat t ht) k⟩⟩,
      fun b hb => ⟨t7, within_bytes b (hn.cti b hb) k⟩⟩, fun e he => ⟨within_regPrivValue _ e.1 (hn.rest.2 e he).1 k, (hn.rest.2 e he).2⟩⟩

structure PartyInfo.NF (p : PartyInfo) : Prop where
  identity : ∀ b, p.identity = some b → b.length < 2 ^ 64
  nonce : ∀ b, p.nonce = some (.bytes b) → b.length < 2 ^ 64
  other : ∀ b, p.other = some b → b.length < 2 ^ 64

theorem within_nonce (o : Option Nonce) (h1 : ∀ b, o = some (.bytes b) → b.length < 2 ^ 64)
    (h2 : ∀ i, o = some (.integer i) → i64Min ≤ i ∧ i ≤ i64Max) (k : Nat) : Within k (nonceValue o) := by
  match o with
  | none => exact ⟨by simp [nonceValue, Normal], by simp [nonceValue, depthOf]⟩
  | some (.bytes b) => exact within_bytes b (h1 b rfl) k
  | some (.integer i) => exact within_int i (h2 i rfl) k

theorem party_emit_within (p : PartyInfo) (hw : p.WF) (hn : PartyInfo.NF p) (x : Value) (hx : p.toValue = .ok x) : Within 1 x := by
  cases (PartyInfo.toValue_eq p).symm.trans hx
  refine (within_array 0 _).mpr ⟨by simp, ?_⟩
  simp only [List.forall_mem_cons]
  exact ⟨within_optBytes _ hn.identity 0, within_nonce _ hn.nonce hw 0, within_optBytes _ hn.other 0, fun _ h => nomatch h⟩

structure SuppPubInfo.NF (s : SuppPubInfo) : Prop where
  prot : ProtectedHeader.NF s.protected_
  other : ∀ b, s.other = some b → b.length < 2 ^ 64

theorem supp_emit_within (s : SuppPubInfo) (hw : s.WF) (hn : SuppPubInfo.NF s) (x : Value) (hx : s.toValue = .ok x) : Within 1 x := by
  obtain ⟨pv, hp, rfl⟩ := Res.map_eq_ok.mp (s.toValue_eq ▸ hx)
  have n1 : Within 0 (.int s.keyDataLength) := ⟨by have hl := hw.len; simp only [Normal]; simp only [u64Max] at hl; omega, by simp [depthOf]⟩
  refine (within_array 0 _).mpr ⟨by cases s.other <;> simp, ?_⟩
  simp only [List.forall_mem_cons, List.forall_mem_map, Option.mem_toList]
  exact ⟨n1, ph_emit_within _ hn.prot _ hp 0, fun b hb => within_bytes b (hn.other b hb) 0⟩

structure CoseKdfContext.NF (k : CoseKdfContext) : Prop where
  alg : RegPrivN Reg.algorithm k.algorithmId
  partyU : PartyInfo.NF k.partyUInfo
  partyV : PartyInfo.NF k.partyVInfo
  supp : SuppPubInfo.NF k.suppPubInfo
  priv : k.suppPrivInfo.length + 4 < 2 ^ 64 ∧ ∀ b ∈ k.suppPrivInfo, b.length < 2 ^ 64

theorem kdf_emit_within (k : CoseKdfContext) (hw : k.WF) (hn : CoseKdfContext.NF k) (x : Value) (hx : k.toValue = .ok x) : Within 2 x := by
  have hu := PartyInfo.toValue_eq k.partyUInfo
  have hv := PartyInfo.toValue_eq k.partyVInfo
  obtain ⟨xs, hs, rfl⟩ := Res.map_eq_ok.mp (k.toValue_eq _ _ hu hv ▸ hx)
  refine (within_array 1 _).mpr ⟨by have := hn.priv.1; simp; omega, ?_⟩
  simp only [List.forall_mem_append, List.forall_mem_cons, List.forall_mem_map]
  exact ⟨⟨within_regPrivValue _ _ hn.alg 1, party_emit_within _ hw.partyU hn.partyU _ hu, party_emit_within _ hw.partyV hn.partyV _ hv,
    supp_emit_within _ hw.supp hn.supp xs hs, fun _ h => nomatch h⟩,
    fun b hb => within_bytes b (hn.priv.2 b hb) 1⟩

end Coset
