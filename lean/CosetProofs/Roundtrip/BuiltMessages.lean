/-
  Encode-then-decode for built messages (C11): every well-formed message encodes, and decoding gives it back up to the
  byte strings assigned to protected headers.
-/
import CosetProofs.Roundtrip.BuiltHeader
import CosetProofs.Roundtrip.ReemitMessages
namespace Coset
open Coset.Spec Coset.Cbor

theorem slots_rt (p : ProtectedHeader) (u : Header) (hp : ProtectedHeader.WF maxNest p) (hu : Header.WF maxNest u) :
    ∃ b y p' u', headerSlots p u = .ok [.bytes b, y] ∧ phFromBstr (.bytes b) = .ok p' ∧ hdrFromValue y = .ok u' ∧
      ProtectedHeader.erase p' = ProtectedHeader.erase p ∧ Header.erase u' = Header.erase u ∧ p'.originalData = some b ∧
      ProtectedHeader.cborBstr p' = ProtectedHeader.cborBstr p := by
  obtain ⟨b, p', h1, h2, h3, h4⟩ := ph_api_rt p hp
  obtain ⟨y, u', g1, g2, g3⟩ := hdr_api_rt u hu
  exact ⟨b, y, p', u', (headerSlots_ok_iff ..).mpr ⟨_, y, rfl, h1, g1⟩, h2, g2, h3, g3, h4, (cborBstr_of_orig p' b h4).trans h1.symm⟩

/- The `*_rt` of the six message types say first that the decoded message emits the protected byte string of the built one (what the
   structure functions of C06 read), then the conjuncts of the type's `C11` theorem (`C11.sign1` for `sign1_rt`, …), in its order. -/

theorem sign1_rt (m : CoseSign1) (hp : ProtectedHeader.WF maxNest m.protected_) (hu : Header.WF maxNest m.unprotected) :
    ∃ b y m', ProtectedHeader.cborBstr m'.protected_ = ProtectedHeader.cborBstr m.protected_ ∧ m.toValue = .ok (.array [.bytes b, y, optBytesToValue m.payload, .bytes m.signature]) ∧
      CoseSign1.fromValue (.array [.bytes b, y, optBytesToValue m.payload, .bytes m.signature]) = .ok m' ∧
      ProtectedHeader.erase m'.protected_ = ProtectedHeader.erase m.protected_ ∧ Header.erase m'.unprotected = Header.erase m.unprotected ∧
      m'.payload = m.payload ∧ m'.signature = m.signature ∧ m'.protected_.originalData = some b := by
  obtain ⟨b, y, p', u', h1, h2, h3, h4, h5, h6, h7⟩ := slots_rt _ _ hp hu
  refine ⟨b, y, ⟨p', u', m.payload, m.signature⟩, h7, m.toValue_eq.trans (Res.map_ok_of h1), ?_, h4, h5, rfl, rfl, h6⟩
  exact (sign1_ok_iff _ _).mpr ⟨.bytes b, y, _, rfl, h2, h3, (optBytes_ok _ _).mpr rfl⟩

theorem mac0_rt (m : CoseMac0) (hp : ProtectedHeader.WF maxNest m.protected_) (hu : Header.WF maxNest m.unprotected) :
    ∃ b y m', ProtectedHeader.cborBstr m'.protected_ = ProtectedHeader.cborBstr m.protected_ ∧ m.toValue = .ok (.array [.bytes b, y, optBytesToValue m.payload, .bytes m.tag]) ∧
      CoseMac0.fromValue (.array [.bytes b, y, optBytesToValue m.payload, .bytes m.tag]) = .ok m' ∧
      ProtectedHeader.erase m'.protected_ = ProtectedHeader.erase m.protected_ ∧ Header.erase m'.unprotected = Header.erase m.unprotected ∧
      m'.payload = m.payload ∧ m'.tag = m.tag ∧ m'.protected_.originalData = some b := by
  obtain ⟨b, y, p', u', h1, h2, h3, h4, h5, h6, h7⟩ := slots_rt _ _ hp hu
  refine ⟨b, y, ⟨p', u', m.payload, m.tag⟩, h7, m.toValue_eq.trans (Res.map_ok_of h1), ?_, h4, h5, rfl, rfl, h6⟩
  exact (mac0_ok_iff _ _).mpr ⟨.bytes b, y, _, rfl, h2, h3, (optBytes_ok _ _).mpr rfl⟩

theorem encrypt0_rt (m : CoseEncrypt0) (hp : ProtectedHeader.WF maxNest m.protected_) (hu : Header.WF maxNest m.unprotected) :
    ∃ b y m', ProtectedHeader.cborBstr m'.protected_ = ProtectedHeader.cborBstr m.protected_ ∧ m.toValue = .ok (.array [.bytes b, y, optBytesToValue m.ciphertext]) ∧
      CoseEncrypt0.fromValue (.array [.bytes b, y, optBytesToValue m.ciphertext]) = .ok m' ∧
      ProtectedHeader.erase m'.protected_ = ProtectedHeader.erase m.protected_ ∧ Header.erase m'.unprotected = Header.erase m.unprotected ∧
      m'.ciphertext = m.ciphertext ∧ m'.protected_.originalData = some b := by
  obtain ⟨b, y, p', u', h1, h2, h3, h4, h5, h6, h7⟩ := slots_rt _ _ hp hu
  refine ⟨b, y, ⟨p', u', m.ciphertext⟩, h7, m.toValue_eq.trans (Res.map_ok_of h1), ?_, h4, h5, rfl, h6⟩
  exact (encrypt0_ok_iff _ _).mpr ⟨.bytes b, y, _, rfl, h2, h3, (optBytes_ok _ _).mpr rfl⟩

theorem signers_rt : ∀ ss, sigsWF maxNest ss →
    ∃ vs ss', sigsToValues ss = .ok vs ∧ mapRes (fun s => (sigFromValue s).mapErr .unexpectedItem) vs = .ok ss' ∧ eraseSigs ss' = eraseSigs ss ∧
      sigsSame ss' ss :=
  sigs_rt maxNest _ fun s hw => let ⟨x, s', g1, g2, g⟩ := sig_api_rt s hw; ⟨x, s', g1, Res.mapErr_eq_ok.mpr g2, g⟩

theorem sign_rt (m : CoseSign) (hp : ProtectedHeader.WF maxNest m.protected_) (hu : Header.WF maxNest m.unprotected) (hs : sigsWF maxNest m.signatures) :
    ∃ b y vs m', ProtectedHeader.cborBstr m'.protected_ = ProtectedHeader.cborBstr m.protected_ ∧ m.toValue = .ok (.array [.bytes b, y, optBytesToValue m.payload, .array vs]) ∧
      CoseSign.fromValue (.array [.bytes b, y, optBytesToValue m.payload, .array vs]) = .ok m' ∧
      ProtectedHeader.erase m'.protected_ = ProtectedHeader.erase m.protected_ ∧ Header.erase m'.unprotected = Header.erase m.unprotected ∧
      m'.payload = m.payload ∧ eraseSigs m'.signatures = eraseSigs m.signatures ∧ m'.protected_.originalData = some b ∧
      sigsSame m'.signatures m.signatures := by
  obtain ⟨b, y, p', u', h1, h2, h3, h4, h5, h6, h7⟩ := slots_rt _ _ hp hu
  obtain ⟨vs, ss', g1, g2, g3, g4⟩ := signers_rt _ hs
  refine ⟨b, y, vs, ⟨p', u', m.payload, ss'⟩, h7, by rw [m.toValue_eq, h1, g1]; rfl, ?_, h4, h5, rfl, g3, h6, g4⟩
  exact (sign_ok_iff _ _).mpr ⟨.bytes b, y, _, vs, rfl, h2, h3, (optBytes_ok _ _).mpr rfl, g2⟩

mutual
def CoseRecipient.height : CoseRecipient → Nat
  | .mk _ _ _ rs => heightL rs + 1
def heightL : List CoseRecipient → Nat
  | [] => 0
  | r :: rs => max (CoseRecipient.height r) (heightL rs)
end

mutual
def CoseRecipient.WF : CoseRecipient → Prop
  | .mk p u _ rs => ProtectedHeader.WF maxNest p ∧ Header.WF maxNest u ∧ rcpsWF rs
def rcpsWF : List CoseRecipient → Prop
  | [] => True
  | r :: rs => CoseRecipient.WF r ∧ rcpsWF rs
end

mutual
def CoseRecipient.erase : CoseRecipient → CoseRecipient
  | .mk p u ct rs => .mk (ProtectedHeader.erase p) (Header.erase u) ct (eraseRcps rs)
def eraseRcps : List CoseRecipient → List CoseRecipient
  | [] => []
  | r :: rs => CoseRecipient.erase r :: eraseRcps rs
end

theorem height_le_heightL {r : CoseRecipient} : ∀ {rs : List CoseRecipient}, r ∈ rs → r.height ≤ heightL rs
  | _ :: _, .head _ => Nat.le_max_left _ _
  | _ :: _, .tail _ h => Nat.le_trans (height_le_heightL h) (Nat.le_max_right _ _)

theorem rcps_rt (f : Value → Res CoseRecipient) (rs : List CoseRecipient) (hw : rcpsWF rs)
    (h : ∀ r ∈ rs, r.WF → ∃ x r', r.toValue = .ok x ∧ f x = .ok r' ∧ r'.erase = r.erase) :
    ∃ ys rs', recipientsToValues rs = .ok ys ∧ mapRes f ys = .ok rs' ∧ eraseRcps rs' = eraseRcps rs := by
  induction rs with
  | nil => exact ⟨[], [], by rw [recipientsToValues], rfl, rfl⟩
  | cons r rs ih =>
    obtain ⟨ys, rs', a1, a2, a3⟩ := ih hw.2 fun r' hr' => h r' (List.mem_cons_of_mem r hr')
    obtain ⟨x, r', c1, c2, c3⟩ := h r List.mem_cons_self hw.1
    rw [recipientsToValues_eq] at a1 ⊢
    exact ⟨x :: ys, r' :: rs', (mapRes_cons_ok ..).mpr ⟨x, ys, c1, a1, rfl⟩, (mapRes_cons_ok ..).mpr ⟨r', rs', c2, a2, rfl⟩, by simp [eraseRcps, c3, a3]⟩

/-- by induction on a bound `n` of the nesting height, which is also fuel enough to decode the emitted value. -/
theorem recipient_rt (n : Nat) : ∀ r : CoseRecipient, r.height ≤ n → r.WF →
    ∃ x r', r.toValue = .ok x ∧ CoseRecipient.fromValue n x = .ok r' ∧ r'.erase = r.erase ∧
      ProtectedHeader.cborBstr r'.protected_ = ProtectedHeader.cborBstr r.protected_ ∧ r'.ciphertext = r.ciphertext := by
  induction n with
  | zero => intro ⟨_, _, _, _⟩ hh; simp [CoseRecipient.height] at hh
  | succ n ih =>
    intro ⟨p, u, ct, rs⟩ hh hw
    obtain ⟨b, y, p', u', h1, h2, h3, h4, h5, h6, h7⟩ := slots_rt p u hw.1 hw.2.1
    obtain ⟨ys, rs', n1, n2, n3⟩ := rcps_rt (CoseRecipient.fromValue n) rs hw.2.2 fun r hr hwr =>
      let ⟨x, r', c1, c2, c3, _⟩ := ih r (Nat.le_trans (height_le_heightL hr) (Nat.le_of_succ_le_succ hh)) hwr
      ⟨x, r', c1, c2, c3⟩
    cases rs with
    | nil =>
      rw [recipientsToValues] at n1; cases n1; cases n2
      exact ⟨.array [.bytes b, y, optBytesToValue ct], .mk p' u' ct [], (CoseRecipient.toValue_nil p u ct).trans (Res.map_ok_of h1),
        (recipient_ok_iff n _ p' u' ct []).mpr (.inl ⟨.bytes b, y, _, rfl, h2, h3, (optBytes_ok _ _).mpr rfl, rfl⟩),
        by simp [CoseRecipient.erase, h4, h5, eraseRcps], h7, rfl⟩
    | cons r0 rs0 =>
      exact ⟨.array [.bytes b, y, optBytesToValue ct, .array ys], .mk p' u' ct rs', by rw [CoseRecipient.toValue_cons, h1, n1]; rfl,
        (recipient_ok_iff n _ p' u' ct rs').mpr (.inr ⟨.bytes b, y, _, ys, rfl, h2, h3, (optBytes_ok _ _).mpr rfl, n2⟩),
        by simp [CoseRecipient.erase, h4, h5, n3], h7, rfl⟩

/-- `rcp_rt`, and the decoded recipient emits the same protected byte string and holds the same ciphertext (what `decrypt` reads). -/
theorem rcp_rt_sameBstr (r : CoseRecipient) (hw : r.WF) : ∃ x r', r.toValue = .ok x ∧ rcpFromValue x = .ok r' ∧ r'.erase = r.erase ∧
    ProtectedHeader.cborBstr r'.protected_ = ProtectedHeader.cborBstr r.protected_ ∧ r'.ciphertext = r.ciphertext := by
  obtain ⟨x, r', h1, h2, h⟩ := recipient_rt r.height r (Nat.le_refl _) hw
  exact ⟨x, r', h1, recipient_fuel _ x r' h2 _ (Nat.lt_succ_self _), h⟩

theorem rcp_rt (r : CoseRecipient) (hw : r.WF) : ∃ x r', r.toValue = .ok x ∧ rcpFromValue x = .ok r' ∧ r'.erase = r.erase :=
  let ⟨x, r', h1, h2, h3, _⟩ := rcp_rt_sameBstr r hw; ⟨x, r', h1, h2, h3⟩

theorem encrypt_rt (m : CoseEncrypt) (hp : ProtectedHeader.WF maxNest m.protected_) (hu : Header.WF maxNest m.unprotected) (hr : rcpsWF m.recipients) :
    ∃ b y ys m', ProtectedHeader.cborBstr m'.protected_ = ProtectedHeader.cborBstr m.protected_ ∧ m.toValue = .ok (.array [.bytes b, y, optBytesToValue m.ciphertext, .array ys]) ∧
      CoseEncrypt.fromValue (.array [.bytes b, y, optBytesToValue m.ciphertext, .array ys]) = .ok m' ∧
      ProtectedHeader.erase m'.protected_ = ProtectedHeader.erase m.protected_ ∧ Header.erase m'.unprotected = Header.erase m.unprotected ∧
      m'.ciphertext = m.ciphertext ∧ eraseRcps m'.recipients = eraseRcps m.recipients ∧ m'.protected_.originalData = some b := by
  obtain ⟨b, y, p', u', h1, h2, h3, h4, h5, h6, h7⟩ := slots_rt _ _ hp hu
  obtain ⟨ys, rs', g1, g2, g3⟩ := rcps_rt rcpFromValue _ hr fun r _ => rcp_rt r
  refine ⟨b, y, ys, ⟨p', u', m.ciphertext, rs'⟩, h7, by rw [m.toValue_eq, h1, g1]; rfl, ?_, h4, h5, rfl, g3, h6⟩
  exact (encrypt_ok_iff _ _).mpr ⟨.bytes b, y, _, ys, rfl, h2, h3, (optBytes_ok _ _).mpr rfl, g2⟩

theorem mac_rt (m : CoseMac) (hp : ProtectedHeader.WF maxNest m.protected_) (hu : Header.WF maxNest m.unprotected) (hr : rcpsWF m.recipients) :
    ∃ b y ys m', ProtectedHeader.cborBstr m'.protected_ = ProtectedHeader.cborBstr m.protected_ ∧ m.toValue = .ok (.array [.bytes b, y, optBytesToValue m.payload, .bytes m.tag, .array ys]) ∧
      CoseMac.fromValue (.array [.bytes b, y, optBytesToValue m.payload, .bytes m.tag, .array ys]) = .ok m' ∧
      ProtectedHeader.erase m'.protected_ = ProtectedHeader.erase m.protected_ ∧ Header.erase m'.unprotected = Header.erase m.unprotected ∧
      m'.payload = m.payload ∧ m'.tag = m.tag ∧ eraseRcps m'.recipients = eraseRcps m.recipients ∧ m'.protected_.originalData = some b := by
  obtain ⟨b, y, p', u', h1, h2, h3, h4, h5, h6, h7⟩ := slots_rt _ _ hp hu
  obtain ⟨ys, rs', g1, g2, g3⟩ := rcps_rt rcpFromValue _ hr fun r _ => rcp_rt r
  refine ⟨b, y, ys, ⟨p', u', m.payload, m.tag, rs'⟩, h7, by rw [m.toValue_eq, h1, g1]; rfl, ?_, h4, h5, rfl, rfl, g3, h6⟩
  exact (mac_ok_iff _ _).mpr ⟨.bytes b, y, _, ys, rfl, h2, h3, (optBytes_ok _ _).mpr rfl, g2⟩

end Coset
