/-
  `Within k x`: the value `x` is one the serializer represents faithfully (`Normal`) and nests at most `k` levels.
  Both "what a decoded structure re-emits is no worse than the wire value" (`Tame x v` is `Within (depthOf v) x`) and "what a built
  structure emits is within the parser's budget" are statements of this form; an array or map is `Within (k + 1)` exactly when it is
  short enough and its members are `Within k`, so both are proved member by member, with no arithmetic on nested `max`.
-/
import CosetProofs.Cbor.Normal
namespace Coset
open Coset.Cbor

def Within (k : Nat) (x : Value) : Prop := Normal x ∧ depthOf x ≤ k

theorem Within.mono {j k : Nat} {x : Value} (h : Within j x) (hjk : j ≤ k) : Within k x := ⟨h.1, Nat.le_trans h.2 hjk⟩

theorem within_array (k : Nat) (xs : List Value) : Within (k + 1) (.array xs) ↔ xs.length < 2 ^ 64 ∧ ∀ x ∈ xs, Within k x := by
  simp only [Within, Normal, depthOf_array, Nat.add_le_add_iff_right, normalL_iff, depthOfL_le_iff]
  exact ⟨fun h => ⟨h.1.1, fun x hx => ⟨h.1.2 x hx, h.2 x hx⟩⟩, fun h => ⟨⟨h.1, fun x hx => (h.2 x hx).1⟩, fun x hx => (h.2 x hx).2⟩⟩

theorem within_map (k : Nat) (m : List (Value × Value)) :
    Within (k + 1) (.map m) ↔ m.length < 2 ^ 64 ∧ ∀ p ∈ m, Within k p.1 ∧ Within k p.2 := by
  simp only [Within, Normal, depthOf_map, Nat.add_le_add_iff_right, normalP_iff, depthOfP_le_iff]
  exact ⟨fun h => ⟨h.1.1, fun p hp => ⟨⟨(h.1.2 p hp).1, (h.2 p hp).1⟩, (h.1.2 p hp).2, (h.2 p hp).2⟩⟩,
    fun h => ⟨⟨h.1, fun p hp => ⟨(h.2 p hp).1.1, (h.2 p hp).2.1⟩⟩, fun p hp => ⟨(h.2 p hp).1.2, (h.2 p hp).2.2⟩⟩⟩

theorem members_within (xs : List Value) (hn : Normal (.array xs)) : ∀ x ∈ xs, Within (depthOfL xs) x :=
  ((within_array _ xs).mp ⟨hn, by rw [depthOf_array]; exact Nat.le_refl _⟩).2

theorem entries_within (m : List (Value × Value)) (hn : Normal (.map m)) : ∀ p ∈ m, Within (depthOfP m) p.1 ∧ Within (depthOfP m) p.2 :=
  ((within_map _ m).mp ⟨hn, by rw [depthOf_map]; exact Nat.le_refl _⟩).2

theorem pairs_within {α : Type} (kf : α → Value) (k : Nat) (es : List (α × Value)) (hl : es.length < 2 ^ 64)
    (h : ∀ e ∈ es, Within k (kf e.1) ∧ Within k e.2) : Within (k + 1) (.map (es.map fun e => (kf e.1, e.2))) :=
  (within_map _ _).mpr ⟨by simpa using hl, List.forall_mem_map.mpr h⟩

end Coset
