/-
  The byte-level spec of a Sig/MAC/Enc structure (`specStruct`) is the serializer's output for an array and is injective (the three
  structure functions are set against it in Props/C03–C05); how a protected header turns into its byte string; `to_vec` / `from_slice`
  as `to_cbor_value` / `from_cbor_value` around the serializer, the tagged entry points being the plain ones for `untag` / `retag`.
-/
import CosetProofs.Cbor.Roundtrip
import CosetSpec.Structures
import CosetProofs.Res
namespace Coset
open Coset.Cbor Coset.Spec

theorem detHead_eq_encHead (m n : Nat) : detHead m n = encHead m n := by
  simp only [detHead, encHead, beN, List.nil_append, List.cons_append, Nat.div_div_eq_div_mul, Nat.reduceMul]

theorem encList_bytes (slots : List Bytes) : encList (slots.map Value.bytes) = (slots.map bstrItem).flatten := by
  induction slots with
  | nil => rfl
  | cons s ss ih => simp [encList, enc, bstrItem, detHead_eq_encHead, ih]

theorem specStruct_eq_enc (ctx : Bytes) (slots : List Bytes) :
    specStruct ctx slots = enc (.array (.text ctx :: slots.map .bytes)) := by
  simp [specStruct, enc, encList, encList_bytes, detHead_eq_encHead, Nat.add_comm]

/-- the serializer is injective on the values it represents faithfully: the parser reads either side of `h` back. -/
theorem enc_injective {v w : Value} (hv : Normal v) (hw : Normal w) (h : enc v = enc w) : v = w := by
  have pv := parse_enc v (nsize v + nsize w) (depthOf v + depthOf w) [] hv (by omega) (by omega)
  have pw := parse_enc w (nsize v + nsize w) (depthOf v + depthOf w) [] hw (by omega) (by omega)
  rw [h, pw] at pv; cases pv; rfl

theorem specStruct_injective (c1 c2 : Bytes) (xs1 xs2 : List Bytes)
    (h1 : Utf8.valid c1 = true ∧ c1.length < 2 ^ 64) (h2 : Utf8.valid c2 = true ∧ c2.length < 2 ^ 64)
    (hx1 : xs1.length + 1 < 2 ^ 64 ∧ ∀ x ∈ xs1, x.length < 2 ^ 64) (hx2 : xs2.length + 1 < 2 ^ 64 ∧ ∀ x ∈ xs2, x.length < 2 ^ 64)
    (h : specStruct c1 xs1 = specStruct c2 xs2) : c1 = c2 ∧ xs1 = xs2 := by
  have normal : ∀ (c : Bytes) (xs : List Bytes), Utf8.valid c = true ∧ c.length < 2 ^ 64 → (xs.length + 1 < 2 ^ 64 ∧ ∀ x ∈ xs, x.length < 2 ^ 64) →
      Normal (.array (.text c :: xs.map .bytes)) := fun c xs hc hx => by
    simp only [Normal, normalL_iff, List.length_cons, List.length_map, List.forall_mem_cons, List.forall_mem_map]
    exact ⟨hx.1, ⟨hc.2, hc.1⟩, hx.2⟩
  rw [specStruct_eq_enc, specStruct_eq_enc] at h
  have := enc_injective (normal c1 xs1 h1 hx1) (normal c2 xs2 h2 hx2) h
  simp only [Value.array.injEq, List.cons.injEq, Value.text.injEq] at this
  exact ⟨this.1, (List.map_inj_right fun _ _ e => Value.bytes.inj e).mp this.2⟩

theorem specStruct_ctx_injective {C : Type} (text : C → Bytes) (hv : ∀ c, Utf8.valid (text c) = true ∧ (text c).length < 2 ^ 64)
    (hinj : ∀ c1 c2, text c1 = text c2 → c1 = c2) {c1 c2 : C} {xs1 xs2 : List Bytes}
    (hx1 : xs1.length + 1 < 2 ^ 64 ∧ ∀ x ∈ xs1, x.length < 2 ^ 64) (hx2 : xs2.length + 1 < 2 ^ 64 ∧ ∀ x ∈ xs2, x.length < 2 ^ 64)
    (h : specStruct (text c1) xs1 = specStruct (text c2) xs2) : c1 = c2 ∧ xs1 = xs2 :=
  let ⟨hc, hx⟩ := specStruct_injective _ _ _ _ (hv c1) (hv c2) hx1 hx2 h
  ⟨hinj _ _ hc, hx⟩

theorem cborBstr_stored (d : Bytes) (h : Header) : ProtectedHeader.cborBstr (.mk (some d) h) = .ok (.bytes d) := rfl

theorem cborBstr_of_orig (p : ProtectedHeader) (b : Bytes) (h : p.originalData = some b) : ProtectedHeader.cborBstr p = .ok (.bytes b) := by
  cases p; cases h; exact cborBstr_stored _ _

theorem cborBstr_built_empty (h : Header) (he : h.isEmpty = true) : ProtectedHeader.cborBstr (.mk none h) = .ok (.bytes []) := by
  simp [ProtectedHeader.cborBstr, he]

theorem cborBstr_built_nonempty (h : Header) (he : h.isEmpty = false) :
    ProtectedHeader.cborBstr (.mk none h) = (Header.toValue h).map (fun v => .bytes (enc v)) := by
  simp only [ProtectedHeader.cborBstr, he]
  cases Header.toValue h <;> rfl

theorem cborBstr_is_bytes (p : ProtectedHeader) (v : Value) (h : ProtectedHeader.cborBstr p = .ok v) : ∃ b, v = .bytes b := by
  cases p with
  | mk orig hd =>
    cases orig with
    | some d => cases h; exact ⟨d, rfl⟩
    | none =>
      cases he : hd.isEmpty
      · rw [cborBstr_built_nonempty hd he, Res.map_eq_ok] at h
        obtain ⟨_, _, rfl⟩ := h; exact ⟨_, rfl⟩
      · rw [cborBstr_built_empty hd he] at h; cases h; exact ⟨_, rfl⟩

theorem bstrExpect_ok (p : ProtectedHeader) (b : Bytes) (h : ProtectedHeader.cborBstr p = .ok (.bytes b)) :
    bstrExpect p = .ok (.bytes b) := by simp [bstrExpect, h]

/- The structure functions read a protected header only through its byte string. -/

theorem sigStructure_congr (ctx : SignatureContext) (p1 p2 : ProtectedHeader) (sp1 sp2 : Option ProtectedHeader) (aad pl : Bytes)
    (hp : ProtectedHeader.cborBstr p1 = ProtectedHeader.cborBstr p2)
    (hs : sp1.map ProtectedHeader.cborBstr = sp2.map ProtectedHeader.cborBstr) :
    sigStructureData ctx p1 sp1 aad pl = sigStructureData ctx p2 sp2 aad pl := by
  match sp1, sp2, hs with
  | none, none, _ => simp [sigStructureData, bstrExpect, hp]
  | some _, some _, hs => simp [sigStructureData, bstrExpect, hp, Option.some.inj hs]

theorem macStructure_congr (ctx : MacContext) (p1 p2 : ProtectedHeader) (aad pl : Bytes)
    (hp : ProtectedHeader.cborBstr p1 = ProtectedHeader.cborBstr p2) : macStructureData ctx p1 aad pl = macStructureData ctx p2 aad pl := by
  simp [macStructureData, bstrExpect, hp]

theorem encStructure_congr (ctx : EncryptionContext) (p1 p2 : ProtectedHeader) (aad : Bytes)
    (hp : ProtectedHeader.cborBstr p1 = ProtectedHeader.cborBstr p2) : encStructureData ctx p1 aad = encStructureData ctx p2 aad := by
  simp [encStructureData, bstrExpect, hp]

section
variable {α : Type} {toV : α → Res Value} {t : α} {x : Value}

theorem toVec_of_ok (hx : toV t = .ok x) : toVec toV t = .ok (enc x) := by simp only [toVec, hx]

theorem toTaggedVec_of_ok (tag : Nat) (hx : toV t = .ok x) : toTaggedVec tag toV t = .ok (enc (.tag tag x)) := by simp only [toTaggedVec, hx]

theorem fromSlice_enc (conv : Value → Res α) (hn : Normal x) (hd : depthOf x ≤ recursionLimit) : fromSlice conv (enc x) = conv x := by
  simp only [fromSlice, readToValue_enc x hn hd]

theorem fromTaggedSlice_enc (tag : Nat) (conv : Value → Res α) (hn : Normal (.tag tag x)) (hd : depthOf (.tag tag x) ≤ recursionLimit) :
    fromTaggedSlice tag conv (enc (.tag tag x)) = conv x := by
  simp [fromTaggedSlice, readToValue_enc _ hn hd, tryAsTag]

/-- `to_vec` then `from_slice` is `to_cbor_value` then `from_cbor_value`, for an emitted value the serializer represents faithfully. -/
theorem through_serializer {conv : Value → Res α} {P : α → Prop} (hn : ∀ x, toV t = .ok x → Normal x ∧ depthOf x ≤ recursionLimit)
    (h : ∃ x t', toV t = .ok x ∧ conv x = .ok t' ∧ P t') : ∃ bs t', toVec toV t = .ok bs ∧ fromSlice conv bs = .ok t' ∧ P t' :=
  let ⟨x, t', hx, hc, hp⟩ := h
  ⟨enc x, t', toVec_of_ok hx, (fromSlice_enc conv (hn x hx).1 (hn x hx).2).trans hc, hp⟩
end

section
set_option smartUnfolding false -- `from_slice`'s `match` is read as `>>=` (Res.lean)
theorem fromSlice_ok {α : Type} {conv : Value → Res α} {b : Bytes} {t : α} (h : fromSlice conv b = .ok t) :
    ∃ v, readToValue b = .ok v ∧ conv v = .ok t := Res.bind_eq_ok.mp h
end

theorem fromSlice_of_read {α : Type} {conv : Value → Res α} {b : Bytes} {v : Value} (h : readToValue b = .ok v) :
    fromSlice conv b = conv v := by
  simp only [fromSlice, h]

def untag {α : Type} (tag : Nat) (conv : Value → Res α) (v : Value) : Res α :=
  match tryAsTag v with
  | .ok (t, inner) => if t != tag then .err .unexpectedItem else conv inner
  | .err e => .err e
  | .panic p => .panic p

def retag {α : Type} (tag : Nat) (toV : α → Res Value) (x : α) : Res Value := (toV x).map (.tag tag)

section
variable {α : Type} {tag : Nat} {conv : Value → Res α} {toV : α → Res Value}

theorem fromTaggedSlice_eq : fromTaggedSlice tag conv = fromSlice (untag tag conv) := rfl

theorem toTaggedVec_eq (x : α) : toTaggedVec tag toV x = toVec (retag tag toV) x := by
  unfold toTaggedVec toVec retag; cases toV x <;> rfl

theorem untag_tag (t : Nat) (inner : Value) :
    untag tag conv (.tag t inner) = if t != tag then .err .unexpectedItem else conv inner := rfl

theorem untag_ok {v : Value} {t : α} : untag tag conv v = .ok t ↔ ∃ inner, v = .tag tag inner ∧ conv inner = .ok t := by
  cases v with
  | tag tg inner => by_cases h : tg = tag <;> simp [untag, tryAsTag, h]
  | _ => simp [untag, tryAsTag, typeError]

theorem retag_ok {t : α} {y : Value} : retag tag toV t = .ok y ↔ ∃ x, toV t = .ok x ∧ .tag tag x = y := Res.map_eq_ok
end

end Coset
