/-
  The fuel of the Header ↔ CoseSignature ↔ ProtectedHeader recursion is invisible: the result depends only on the nesting budget
  `depth`, and the recursion never nests deeper than 3·depth + 3 activations — whatever the input.
-/
import CosetProofs.HeaderLoop
import CosetProofs.Shapes
namespace Coset

theorem budget_induction {Q : Nat → Prop} (step : ∀ d, (d ≠ 0 → Q (d - 1)) → Q d) : ∀ d, Q d
  | 0 => step 0 fun h => absurd rfl h
  | d + 1 => step (d + 1) fun _ => budget_induction step d

/-- the arithmetic of the family's recursion, once: a header at budget `d` calls signatures at budget `d - 1` (only when `d ≠ 0`),
    a protected header calls a header, a signature calls both, each one unit of fuel down. -/
theorem family_induction {H P S : Nat → Nat → Prop}
    (hH : ∀ g d, (d ≠ 0 → S g (d - 1)) → H (g + 1) d)
    (hP : ∀ g d, H g d → P (g + 1) d)
    (hS : ∀ g d, H g d → P g d → S (g + 1) d) (d : Nat) :
    (∀ f, 3 * d + 1 ≤ f → H f d) ∧ (∀ f, 3 * d + 2 ≤ f → P f d) ∧ (∀ f, 3 * d + 3 ≤ f → S f d) :=
  budget_induction (Q := fun d => (∀ f, 3 * d + 1 ≤ f → H f d) ∧ (∀ f, 3 * d + 2 ≤ f → P f d) ∧ (∀ f, 3 * d + 3 ≤ f → S f d)) (fun d ih =>
    have h1 : ∀ f, 3 * d + 1 ≤ f → H f d
      | g + 1, hf => hH g d fun hd => (ih hd).2.2 g (by omega)
    have h2 : ∀ f, 3 * d + 2 ≤ f → P f d
      | g + 1, hf => hP g d (h1 g (by omega))
    ⟨h1, h2, fun
      | g + 1, hf => hS g d (h1 g (by omega)) (h2 g (by omega))⟩) d

/-- with the budget exhausted the signature decoder is never called. -/
theorem counterSigArm_zero (sf sf' : Value → Res CoseSignature) : counterSigArm 0 sf = counterSigArm 0 sf' := by
  funext v; simp only [counterSigArm, ↓reduceIte]

theorem headerLoop_congr {d : Nat} {sf sf' : Value → Res CoseSignature} (h : d ≠ 0 → sf = sf') : headerLoop d sf = headerLoop d sf' := by
  by_cases hd : d = 0
  · subst hd
    have hstep : headerStep 0 sf = headerStep 0 sf' := by
      funext h lv; simp only [headerStep, headerDispatch, counterSigArm_zero sf sf']
    funext m hh seen; rw [headerLoop_eq_gen, headerLoop_eq_gen, hstep]
  · rw [h hd]

theorem fuel_irrelevant (d : Nat) :
    (∀ f, 3 * d + 1 ≤ f → ∀ f', 3 * d + 1 ≤ f' → Header.fromValue f d = Header.fromValue f' d) ∧
    (∀ f, 3 * d + 2 ≤ f → ∀ f', 3 * d + 2 ≤ f' → ProtectedHeader.fromBstr f d = ProtectedHeader.fromBstr f' d) ∧
    (∀ f, 3 * d + 3 ≤ f → ∀ f', 3 * d + 3 ≤ f' → CoseSignature.fromValue f d = CoseSignature.fromValue f' d) :=
  family_induction
    (H := fun f d => ∀ f', 3 * d + 1 ≤ f' → Header.fromValue f d = Header.fromValue f' d)
    (P := fun f d => ∀ f', 3 * d + 2 ≤ f' → ProtectedHeader.fromBstr f d = ProtectedHeader.fromBstr f' d)
    (S := fun f d => ∀ f', 3 * d + 3 ≤ f' → CoseSignature.fromValue f d = CoseSignature.fromValue f' d)
    (fun g d ih => fun
      | g' + 1, hf => by funext v; rw [header_eq, header_eq, headerLoop_congr fun hd => ih hd g' (by omega)])
    (fun g d ih => fun
      | g' + 1, hf => by funext v; rw [protected_eq, protected_eq, ih g' (by omega)])
    (fun g d ihH ihP => fun
      | g' + 1, hf => by funext v; rw [signature_eq, signature_eq, ihH g' (by omega), ihP g' (by omega)]) d

theorem fuel_independent : ∀ d,
    (∀ f v, 3 * d + 1 ≤ f → Header.fromValue f d v = Header.fromValue (3 * d + 1) d v) ∧
    (∀ f v, 3 * d + 2 ≤ f → ProtectedHeader.fromBstr f d v = ProtectedHeader.fromBstr (3 * d + 2) d v) ∧
    (∀ f v, 3 * d + 3 ≤ f → CoseSignature.fromValue f d v = CoseSignature.fromValue (3 * d + 3) d v) := fun d =>
  have ⟨hH, hP, hS⟩ := fuel_irrelevant d
  ⟨fun f v hf => congrFun (hH f hf _ (Nat.le_refl _)) v, fun f v hf => congrFun (hP f hf _ (Nat.le_refl _)) v,
    fun f v hf => congrFun (hS f hf _ (Nat.le_refl _)) v⟩

end Coset
