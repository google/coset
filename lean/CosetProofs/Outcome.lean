/-
  `Safe r`: a value or one of the crate's own errors, that is neither a panic (`NP`) nor the model-only `outOfFuel` (`NoOof`).  The
  "all inputs" theorems are about it: it is closed under `>>=`, `if`, `mapRes`, and holds of the leaves of the decoders.
-/
import CosetProofs.Res
namespace Coset

def NP {α : Type} (r : Res α) : Prop := ∀ p, r ≠ .panic p

def NoOof {α : Type} (r : Res α) : Prop := r ≠ .err .outOfFuel

def Safe {α : Type} : Res α → Prop
  | .ok _ => True
  | .err e => e ≠ .outOfFuel
  | .panic _ => False

namespace Safe
variable {α β : Type}

theorem np {r : Res α} (h : Safe r) : NP r := fun _ e => by subst e; exact h
theorem noOof {r : Res α} (h : Safe r) : NoOof r := fun e => by subst e; exact h rfl

theorem ok {a : α} : Safe (Res.ok a) := trivial
theorem err {e : CoseErr} (h : e ≠ .outOfFuel := by decide) : Safe (Res.err e : Res α) := h
theorem typeError : Safe (typeError : Res α) := err

theorem bind {x : Res α} {f : α → Res β} (hx : Safe x) (hf : ∀ a, x = .ok a → Safe (f a)) : Safe (x >>= f) := by
  cases x with
  | ok a => exact hf a rfl
  | err e => exact hx
  | panic p => exact hx

theorem ite {c : Prop} [Decidable c] {a b : Res α} (ha : c → Safe a) (hb : ¬c → Safe b) : Safe (if c then a else b) := by
  by_cases h : c
  · rw [if_pos h]; exact ha h
  · rw [if_neg h]; exact hb h

theorem mapErr {x : Res α} (hx : Safe x) {e : CoseErr} (he : e ≠ .outOfFuel := by decide) : Safe (x.mapErr e) := by
  cases x <;> first | exact hx | exact he

theorem mapRes {f : α → Res β} : ∀ {xs : List α}, (∀ x ∈ xs, Safe (f x)) → Safe (mapRes f xs)
  | [], _ => trivial
  | x :: xs, h => by
    rw [mapRes_cons]
    exact (h x (by simp)).bind fun _ _ => (mapRes fun y hy => h y (by simp [hy])).bind fun _ _ => ok

end Safe

theorem vindex_safe {α : Type} {a : List α} {i : Nat} (h : i < a.length) : Safe (vindex a i) := by
  simp [vindex, List.getElem?_eq_getElem h, Safe]

@[simp] theorem vindex_oof {α : Type} (a : List α) (i : Nat) : (vindex a i = .err .outOfFuel) = False := by
  unfold vindex; cases a[i]? <;> simp

theorem narrowI64_safe (n : Int) : Safe (narrowI64 n) := by unfold narrowI64; exact .ite (fun _ => .ok) fun _ => .err
theorem narrowU64_safe (n : Int) : Safe (narrowU64 n) := by unfold narrowU64; exact .ite (fun _ => .ok) fun _ => .err
theorem tryAsInteger_safe (v : Value) : Safe (tryAsInteger v) := by cases v <;> first | exact .ok | exact .typeError
theorem tryAsBytes_safe (v : Value) : Safe (tryAsBytes v) := by cases v <;> first | exact .ok | exact .typeError
theorem tryAsString_safe (v : Value) : Safe (tryAsString v) := by cases v <;> first | exact .ok | exact .typeError
theorem tryAsArray_safe (v : Value) : Safe (tryAsArray v) := by cases v <;> first | exact .ok | exact .typeError
theorem tryAsMap_safe (v : Value) : Safe (tryAsMap v) := by cases v <;> first | exact .ok | exact .typeError
theorem tryAsTag_safe (v : Value) : Safe (tryAsTag v) := by cases v <;> first | exact .ok | exact .typeError
theorem optBytes_safe (v : Value) : Safe (optBytes v) := by cases v <;> first | exact .ok | exact .typeError

theorem tryAsNonemptyBytes_safe (v : Value) : Safe (tryAsNonemptyBytes v) := by
  cases v <;> first | exact .typeError | exact .ite (fun _ => .err) fun _ => .ok

end Coset
