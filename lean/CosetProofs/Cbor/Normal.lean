/-
  The values the serializer represents faithfully (`Normal`), the recursion budget (`depthOf`) and the fuel (`nsize`) a value needs.
-/
import CosetProofs.Cbor.Head
namespace Coset.Cbor
open Coset

/-- `tag t v` is a bignum tag over a short byte string: the form ciborium's parser folds on sight, without entering the tagged item
    (so without consuming a unit of its recursion budget). -/
def foldedTag (t : Nat) : Value → Bool
  | .bytes b => (t == 2 || t == 3) && decide (b.length ≤ 16)
  | _ => false

mutual
/-- recursion budget a value needs: arrays, maps and tags each consume one unit (a folded bignum tag consumes none). -/
def depthOf : Value → Nat
  | .tag t v => if foldedTag t v then 0 else depthOf v + 1
  | .array xs => depthOfL xs + 1
  | .map kvs => depthOfP kvs + 1
  | _ => 0
def depthOfL : List Value → Nat
  | [] => 0
  | x :: xs => max (depthOf x) (depthOfL xs)
def depthOfP : List (Value × Value) → Nat
  | [] => 0
  | (k, v) :: kvs => max (max (depthOf k) (depthOf v)) (depthOfP kvs)
end

mutual
/-- fuel one call of `parse` needs for the encoding of a value. -/
def nsize : Value → Nat
  | .tag _ v => nsize v + 1
  | .array xs => nsizeL xs + 1
  | .map kvs => nsizeP kvs + 1
  | _ => 1
def nsizeL : List Value → Nat
  | [] => 1
  | x :: xs => nsize x + nsizeL xs + 1
def nsizeP : List (Value × Value) → Nat
  | [] => 1
  | (k, v) :: kvs => nsize k + nsize v + nsizeP kvs + 1
end

/-- `t` is a bignum tag applied to a byte string short enough for ciborium to fold it into an integer (the specification states the
    same predicate on its own, as `Spec.ShortBignum`). -/
def SmallBignum (t : Nat) (v : Value) : Prop :=
  (t = 2 ∨ t = 3) ∧ ∃ b, v = .bytes b ∧ b.length ≤ 16

theorem foldedTag_iff (t : Nat) (v : Value) : foldedTag t v = true ↔ SmallBignum t v := by
  cases v <;> simp [foldedTag, SmallBignum]

theorem depthOf_tag_of_not_small (t : Nat) (v : Value) (h : ¬ SmallBignum t v) : depthOf (.tag t v) = depthOf v + 1 := by
  rw [depthOf, if_neg (mt (foldedTag_iff t v).mp h)]

theorem depthOf_tag_le (t : Nat) (v : Value) : depthOf (.tag t v) ≤ depthOf v + 1 := by
  simp only [depthOf]; split <;> omega

theorem depthOf_le_of_tag (t : Nat) (v : Value) : depthOf v ≤ depthOf (.tag t v) := by
  simp only [depthOf]
  split
  · next h => obtain ⟨_, b, rfl, _⟩ := (foldedTag_iff t v).mp h; simp [depthOf]
  · omega

/-- a bignum tag in the one form ciborium itself produces and reproduces: the minimal big-endian bytes of a magnitude that does not
    fit 64 bits (and, for tag 3, whose value `-1 - n` fits `i128`).  The parser folds it and `From<u128/i128>` writes it back unchanged. -/
def CanonBig (t : Nat) (v : Value) : Prop :=
  ∃ raw, 2 ^ 64 ≤ raw ∧ (t = 2 → raw < 2 ^ 128) ∧ (t = 3 → raw < 2 ^ 127) ∧ v = .bytes (minBytes raw)

theorem CanonBig.of_bytes {t : Nat} {b : Bytes} (ht : t = 2 ∨ t = 3) (h : CanonBig t (.bytes b)) :
    minBytes (beVal b) = b ∧ 2 ^ 64 ≤ beVal b ∧ (t = 3 → beVal b < 2 ^ 127) := by
  obtain ⟨raw, h64, h2, h3, hb⟩ := h
  cases hb
  have h128 : raw < 2 ^ 128 := ht.elim h2 fun h => Nat.lt_trans (h3 h) (by decide)
  rw [beVal_minBytes raw h128]
  exact ⟨rfl, h64, h3⟩

mutual
/-- values the parser can return from the serializer's output: CBOR integer range, valid UTF-8,
    lengths and tags below 2^64, no foldable bignum tag other than a canonical big one. -/
def Normal : Value → Prop
  | .int n => -(2 ^ 64 : Int) ≤ n ∧ n < 2 ^ 64
  | .bytes b => b.length < 2 ^ 64
  | .text b => b.length < 2 ^ 64 ∧ Utf8.valid b = true
  | .float _ => True
  | .bool _ => True
  | .null => True
  | .tag t v => t < 2 ^ 64 ∧ (SmallBignum t v → CanonBig t v) ∧ Normal v
  | .array xs => xs.length < 2 ^ 64 ∧ NormalL xs
  | .map kvs => kvs.length < 2 ^ 64 ∧ NormalP kvs
def NormalL : List Value → Prop
  | [] => True
  | x :: xs => Normal x ∧ NormalL xs
def NormalP : List (Value × Value) → Prop
  | [] => True
  | (k, v) :: kvs => Normal k ∧ Normal v ∧ NormalP kvs
end

theorem normalL_iff : ∀ xs : List Value, NormalL xs ↔ ∀ x ∈ xs, Normal x
  | [] => by simp [NormalL]
  | y :: ys => by simp only [NormalL, normalL_iff ys, List.forall_mem_cons]

theorem normalP_iff : ∀ m : List (Value × Value), NormalP m ↔ ∀ p ∈ m, Normal p.1 ∧ Normal p.2
  | [] => by simp [NormalP]
  | (k, v) :: m => by simp only [NormalP, normalP_iff m, List.forall_mem_cons, and_assoc]

theorem depthOfL_le_iff (b : Nat) : ∀ xs : List Value, depthOfL xs ≤ b ↔ ∀ x ∈ xs, depthOf x ≤ b
  | [] => by simp [depthOfL]
  | y :: ys => by simp only [depthOfL, depthOfL_le_iff b ys, Nat.max_le, List.forall_mem_cons]

theorem depthOfP_le_iff (b : Nat) : ∀ m : List (Value × Value), depthOfP m ≤ b ↔ ∀ p ∈ m, depthOf p.1 ≤ b ∧ depthOf p.2 ≤ b
  | [] => by simp [depthOfP]
  | (k, v) :: m => by simp only [depthOfP, depthOfP_le_iff b m, Nat.max_le, List.forall_mem_cons, and_assoc]

theorem depthOf_array (xs : List Value) : depthOf (.array xs) = depthOfL xs + 1 := by simp [depthOf]
theorem depthOf_map (m : List (Value × Value)) : depthOf (.map m) = depthOfP m + 1 := by simp [depthOf]

end Coset.Cbor
