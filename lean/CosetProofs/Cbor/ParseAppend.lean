/-
  L3: the parser reads exactly one item — what follows the item is returned untouched, whatever it is — and neither more fuel nor
  a larger recursion budget changes a successful result.
-/
import CosetProofs.Cbor.ParseInv
namespace Coset.Cbor
open Coset

theorem peek_append_some {t len : Nat} {rest rest2 : Bytes} (s : Bytes) (h : peek t rest = some (len, rest2)) :
    peek t (rest ++ s) = some (len, rest2 ++ s) := by
  obtain ⟨h23, hp, hl⟩ := peek_eq_some.mp h
  exact peek_eq_some.mpr ⟨h23, pull_append s hp, hl⟩

/-- the look-ahead only sees the head of the tagged item. -/
theorem peek_append_none {t : Nat} {rest r : Bytes} {hd : Hd} (s : Bytes) (hp : pull rest = some (hd, r)) (h : peek t rest = none) :
    peek t (rest ++ s) = none := by
  cases h' : peek t (rest ++ s) with
  | none => rfl
  | some q =>
    obtain ⟨len, rest2⟩ := q
    obtain ⟨h23, hp', hl⟩ := peek_eq_some.mp h'
    rw [pull_append s hp] at hp'; cases hp'
    rw [peek_eq_some.mpr ⟨h23, hp, hl⟩] at h; cases h

theorem chunks_append : ∀ {fuel t k bs acc b r}, chunks fuel t k bs acc = .ok (b, r) →
    ∀ s {f'}, fuel ≤ f' → chunks f' t k (bs ++ s) acc = .ok (b, r ++ s) := by
  intro fuel
  induction fuel with
  | zero => simp [chunks]
  | succ fuel ih =>
    intro t k bs acc b r h s f' hle
    obtain ⟨f, rfl⟩ : ∃ f, f' = f + 1 := ⟨f' - 1, by omega⟩
    have hf : fuel ≤ f := by omega
    obtain ⟨hd, rest, hp, hs⟩ := chunks_ok_step h
    refine (chunks_ok_iff (pull_append s hp)).mpr ?_
    have body : ∀ len, ChunkBody fuel t k len rest acc b r → ChunkBody f t k len (rest ++ s) acc b (r ++ s) := by
      rintro (_ | n) hb
      · exact ih hb s hf
      · obtain ⟨c, r', rfl, hn, hu, hc⟩ := hb
        exact ⟨c, r' ++ s, List.append_assoc .., hn, hu, ih hc s hf⟩
    cases hd with
    | brk =>
      rcases hs with ⟨hk, rfl, rfl⟩ | ⟨hk, hc⟩
      · exact .inl ⟨hk, rfl, rfl⟩
      · exact .inr ⟨hk, ih hc s hf⟩
    | bytes len | text len => exact ⟨hs.1, body len hs.2⟩
    | _ => exact hs

theorem listEnd_append {n : Option Nat} {bs r : Bytes} (s : Bytes) (h : listEnd n bs = some r) : listEnd n (bs ++ s) = some (r ++ s) := by
  rcases listEnd_eq_some.mp h with ⟨rfl, rfl⟩ | ⟨rfl, rfl⟩ <;> rfl

theorem listEnd_append_none {n : Option Nat} {bs : Bytes} (s : Bytes) (h : listEnd n bs = none) (hb : bs ≠ []) : listEnd n (bs ++ s) = none := by
  cases bs with
  | nil => exact absurd rfl hb
  | cons b t => exact listEnd_eq_none.mpr ((listEnd_eq_none (bs := b :: t)).mp h)

theorem parse_append_aux : ∀ fuel,
    (∀ {d bs v r}, parse fuel d bs = .ok (v, r) → ∀ s f' d', fuel ≤ f' → d ≤ d' → parse f' d' (bs ++ s) = .ok (v, r ++ s)) ∧
    (∀ {d n bs xs r}, items (fun f => parse f d) fuel n bs = .ok (xs, r) →
      ∀ s f' d', fuel ≤ f' → d ≤ d' → items (fun f => parse f d') f' n (bs ++ s) = .ok (xs, r ++ s)) ∧
    (∀ {d n bs xs r}, items (pair fun f => parse f d) fuel n bs = .ok (xs, r) →
      ∀ s f' d', fuel ≤ f' → d ≤ d' → items (pair fun f => parse f d') f' n (bs ++ s) = .ok (xs, r ++ s)) := by
  intro fuel
  induction fuel with
  | zero => exact ⟨by simp [parse], by simp [items], by simp [items]⟩
  | succ fuel ih =>
    obtain ⟨ihv, ihl, ihp⟩ := ih
    -- each function: invert the step at `fuel + 1`, rebuild it at `f + 1` on the longer input
    refine ⟨?_, ?_, ?_⟩
    · intro d bs v r h s f' d' hle hdd
      obtain ⟨f, rfl⟩ : ∃ f, f' = f + 1 := ⟨f' - 1, by omega⟩
      have hf : fuel ≤ f := by omega
      obtain ⟨hd, rest, hp, hs⟩ := parse_ok_step h
      refine (parse_ok_iff (pull_append s hp)).mpr ?_
      have str : ∀ t len b, StrStep fuel t len rest b r → StrStep f t len (rest ++ s) b (r ++ s) := by
        rintro t (_ | n) b hb
        · exact chunks_append hb s hf
        · exact ⟨by rw [hb.1, List.append_assoc], hb.2⟩
      cases hd with
      | pos n | neg n | float n | simple n => exact ⟨hs.1, by rw [hs.2]⟩
      | brk => exact hs
      | bytes len | text len => obtain ⟨b, hb, hv⟩ := hs; exact ⟨b, str _ _ _ hb, hv⟩
      | array len => obtain ⟨hd0, xs, hc, hv⟩ := hs; exact ⟨by omega, xs, ihl hc s f (d' - 1) hf (by omega), hv⟩
      | map len => obtain ⟨hd0, xs, hc, hv⟩ := hs; exact ⟨by omega, xs, ihp hc s f (d' - 1) hf (by omega), hv⟩
      | tag t =>
        rcases hs with ⟨b, hpk, hv⟩ | ⟨hpk, hd0, w, hc, hv⟩
        · exact .inl ⟨b, by rw [peek_append_some s hpk, List.append_assoc], hv⟩
        · obtain ⟨_, hd2, rest3, -, hp2, -⟩ := parse_ok_cases hc
          exact .inr ⟨peek_append_none s hp2 hpk, by omega, w, ihv hc s f (d' - 1) hf (by omega), hv⟩
    · intro d n bs xs r h s f' d' hle hdd
      obtain ⟨f, rfl⟩ : ∃ f, f' = f + 1 := ⟨f' - 1, by omega⟩
      rcases items_ok_iff.mp h with ⟨he, rfl⟩ | ⟨he, v, r1, ys, hv, hc, rfl⟩
      · exact items_ok_iff.mpr (.inl ⟨listEnd_append s he, rfl⟩)
      · exact items_ok_iff.mpr (.inr ⟨listEnd_append_none s he (ne_nil_of_parse_ok hv), v, r1 ++ s, ys,
          ihv hv s f d' (by omega) hdd, ihl hc s f d' (by omega) hdd, rfl⟩)
    · intro d n bs xs r h s f' d' hle hdd
      obtain ⟨f, rfl⟩ : ∃ f, f' = f + 1 := ⟨f' - 1, by omega⟩
      rcases items_ok_iff.mp h with ⟨he, rfl⟩ | ⟨he, ⟨k, v⟩, r2, ys, hkv, hc, rfl⟩
      · exact items_ok_iff.mpr (.inl ⟨listEnd_append s he, rfl⟩)
      · obtain ⟨r1, hk, hv⟩ := pair_ok_iff.mp hkv
        exact items_ok_iff.mpr (.inr ⟨listEnd_append_none s he (ne_nil_of_parse_ok hk), (k, v), r2 ++ s, ys,
          pair_ok_iff.mpr ⟨r1 ++ s, ihv hk s f d' (by omega) hdd, ihv hv s f d' (by omega) hdd⟩,
          ihp hc s f d' (by omega) hdd, rfl⟩)

theorem parse_append (fuel f' d d' : Nat) (bs s : Bytes) (v : Value) (r : Bytes)
    (h : parse fuel d bs = .ok (v, r)) (hf : fuel ≤ f') (hd : d ≤ d') : parse f' d' (bs ++ s) = .ok (v, r ++ s) :=
  (parse_append_aux fuel).1 h s f' d' hf hd

theorem parse_mono {fuel f' d d' : Nat} {bs r : Bytes} {v : Value} (h : parse fuel d bs = .ok (v, r)) (hf : fuel ≤ f') (hd : d ≤ d') :
    parse f' d' bs = .ok (v, r) := by
  simpa using parse_append fuel f' d d' bs [] v r h hf hd

theorem fromReader_append (bs s : Bytes) (v : Value) (r : Bytes) (h : fromReader bs = .ok (v, r)) :
    fromReader (bs ++ s) = .ok (v, r ++ s) := by
  unfold fromReader at h ⊢
  exact (parse_append_aux _).1 h s _ _ (by unfold fuelFor; simp only [List.length_append]; omega) (Nat.le_refl _)

end Coset.Cbor
