/-
  One step of each parser function, read as a relation.  The parser's definitions are nests of `match`es most of whose branches are
  errors; what a *successful* step looks like after the head has been read (`ParseStep`, `ChunkStep`, `items_ok_iff`) is read off
  them here, once, and the inductions on the fuel use these equivalences in place of the definitions.  What is said of
  `read_to_value` is said of `parse` through `readToValue_ok_iff`.
-/
import CosetProofs.Cbor.Head
namespace Coset.Cbor
open Coset

namespace PR
variable {α β : Type}

/-- the `match` on a parser result that passes `.err` and `.oof` on (the model writes it out at every call). -/
def bind (x : PR α) (g : α → PR β) : PR β :=
  match x with
  | .ok a => g a
  | .err => .err
  | .oof => .oof

theorem bind_assoc {γ : Type} (x : PR α) (g : α → PR β) (h : β → PR γ) : (x.bind g).bind h = x.bind fun a => (g a).bind h := by
  cases x <;> rfl

theorem bind_eq_ok {x : PR α} {g : α → PR β} {b : β} : x.bind g = .ok b ↔ ∃ a, x = .ok a ∧ g a = .ok b := by
  cases x <;> simp [bind]

theorem ite_err_eq_ok {c : Prop} [Decidable c] {x : PR α} {a : α} : (if c then PR.err else x) = .ok a ↔ ¬ c ∧ x = .ok a := by
  by_cases h : c <;> simp [h]

end PR

/-- where a list of elements ends: a definite-length one after `n` elements, an indefinite-length one at the break byte
    (`pull` gives `brk` exactly for 0xff). -/
def listEnd : Option Nat → Bytes → Option Bytes
  | some 0, bs => some bs
  | some (_ + 1), _ => none
  | none, bs => if bs.head? = some 0xff then some bs.tail else none

theorem listEnd_eq_some {n : Option Nat} {bs r : Bytes} : listEnd n bs = some r ↔ (n = some 0 ∧ r = bs) ∨ (n = none ∧ bs = 0xff :: r) := by
  rcases n with _ | _ | k
  · rcases bs with _ | ⟨b, t⟩
    · simp [listEnd]
    · by_cases hb : b = 0xff <;> simp [listEnd, hb, eq_comm]
  · simp [listEnd, eq_comm]
  · simp [listEnd]

theorem listEnd_eq_none {n : Option Nat} {bs : Bytes} : listEnd n bs = none ↔ (∃ k, n = some (k + 1)) ∨ (n = none ∧ bs.head? ≠ some 0xff) := by
  rcases n with _ | _ | k
  · by_cases hb : bs.head? = some 0xff <;> simp [listEnd, hb]
  · simp [listEnd]
  · simp [listEnd]

/-- `parseN`, `parseIndef`, `parsePairsN` and `parsePairsIndef` are one loop: elements read by `elem` up to `listEnd`. -/
def items {α : Type} (elem : Nat → Bytes → PR (α × Bytes)) : Nat → Option Nat → Bytes → PR (List α × Bytes)
  | 0, _, _ => .oof
  | f + 1, n, bs =>
    match listEnd n bs with
    | some r => .ok ([], r)
    | none => (elem f bs).bind fun (v, r1) => (items elem f (n.map (· - 1)) r1).bind fun (xs, r) => .ok (v :: xs, r)

/-- the element of a map: a key, then a value. -/
def pair (elem : Nat → Bytes → PR (Value × Bytes)) (f : Nat) (bs : Bytes) : PR ((Value × Value) × Bytes) :=
  (elem f bs).bind fun (k, r1) => (elem f r1).bind fun (v, r) => .ok ((k, v), r)

/- The model's loops and `items` spell the same `match`es with different auxiliary matchers; once those may be unfolded where their
   discriminant is stuck (`smartUnfolding false`), each step is `rfl`. -/
section
set_option smartUnfolding false

theorem parseN_eq (d : Nat) : ∀ f n bs, parseN f d n bs = items (fun f => parse f d) f (some n) bs
  | 0, _, _ => by rw [parseN, items]
  | f + 1, 0, _ => by rw [parseN, items]; rfl
  | f + 1, n + 1, _ => by rw [parseN, items]; simp only [parseN_eq d f]; rfl

theorem parseIndef_eq (d : Nat) : ∀ f bs, parseIndef f d bs = items (fun f => parse f d) f none bs
  | 0, _ => by rw [parseIndef, items]
  | f + 1, bs => by
    rw [parseIndef, items]
    by_cases hb : bs.head? = some 0xff <;> simp only [listEnd, hb, if_true, if_false, parseIndef_eq d f] <;> rfl

theorem parsePairsN_eq (d : Nat) : ∀ f n bs, parsePairsN f d n bs = items (pair fun f => parse f d) f (some n) bs
  | 0, _, _ => by rw [parsePairsN, items]
  | f + 1, 0, _ => by rw [parsePairsN, items]; rfl
  | f + 1, n + 1, _ => by rw [parsePairsN, items]; simp only [parsePairsN_eq d f, pair, PR.bind_assoc]; rfl

theorem parsePairsIndef_eq (d : Nat) : ∀ f bs, parsePairsIndef f d bs = items (pair fun f => parse f d) f none bs
  | 0, _ => by rw [parsePairsIndef, items]
  | f + 1, bs => by
    rw [parsePairsIndef, items]
    by_cases hb : bs.head? = some 0xff <;>
      simp only [listEnd, hb, if_true, if_false, parsePairsIndef_eq d f, pair, PR.bind_assoc] <;> rfl

end

theorem items_ok_iff {α : Type} {elem : Nat → Bytes → PR (α × Bytes)} {f : Nat} {n : Option Nat} {bs r : Bytes} {xs : List α} :
    items elem (f + 1) n bs = .ok (xs, r) ↔
      (listEnd n bs = some r ∧ xs = []) ∨
      (listEnd n bs = none ∧ ∃ v r1 ys, elem f bs = .ok (v, r1) ∧ items elem f (n.map (· - 1)) r1 = .ok (ys, r) ∧ xs = v :: ys) := by
  rw [items]
  cases listEnd n bs with
  | some r0 =>
    simp only [reduceCtorEq, false_and, or_false, PR.ok.injEq, Prod.mk.injEq, Option.some.injEq]
    exact ⟨fun h => ⟨h.2, h.1.symm⟩, fun h => ⟨h.2.symm, h.1⟩⟩
  | none =>
    simp only [PR.bind_eq_ok, reduceCtorEq, false_and, false_or, true_and]
    constructor
    · rintro ⟨⟨v, r1⟩, hv, ⟨ys, r2⟩, hc, h⟩; cases h; exact ⟨v, r1, ys, hv, hc, rfl⟩
    · rintro ⟨v, r1, ys, hv, hc, rfl⟩; exact ⟨(v, r1), hv, (ys, r), hc, rfl⟩

theorem pair_ok_iff {elem : Nat → Bytes → PR (Value × Bytes)} {f : Nat} {bs r : Bytes} {k v : Value} :
    pair elem f bs = .ok ((k, v), r) ↔ ∃ r1, elem f bs = .ok (k, r1) ∧ elem f r1 = .ok (v, r) := by
  simp only [pair, PR.bind_eq_ok]
  constructor
  · rintro ⟨⟨k', r1⟩, hk, ⟨v', r2⟩, hv, h⟩; cases h; exact ⟨r1, hk, hv⟩
  · rintro ⟨r1, hk, hv⟩; exact ⟨(k, r1), hk, (v, r), hv, rfl⟩

/-- reading `n` bytes off `bs`, the way the parser does it everywhere. -/
theorem take_ok_iff {α : Type} {bs : Bytes} {n : Nat} {K : Bytes → Bytes → PR α} {x : α} :
    (if bs.length < n then PR.err else K (bs.take n) (bs.drop n)) = .ok x ↔ ∃ b r, bs = b ++ r ∧ b.length = n ∧ K b r = .ok x := by
  constructor
  · intro h
    by_cases hl : bs.length < n
    · rw [if_pos hl] at h; cases h
    · rw [if_neg hl] at h
      exact ⟨_, _, (List.take_append_drop n bs).symm, by simp only [List.length_take]; omega, h⟩
  · rintro ⟨b, r, rfl, rfl, h⟩
    rw [if_neg (by simp), List.take_left' rfl, List.drop_left' rfl]; exact h

/-- one chunk behind a head with length `len`: a nested indefinite-length string, or a definite-length one (a text string's checked
    to be UTF-8). -/
def ChunkBody (f : Nat) (t : Bool) (k : Nat) (len : Option Nat) (rest acc b r : Bytes) : Prop :=
  match len with
  | none => chunks f t (k + 1) rest acc = .ok (b, r)
  | some n => ∃ c r', rest = c ++ r' ∧ c.length = n ∧ (t = true → Utf8.valid c = true) ∧ chunks f t k r' (acc ++ c) = .ok (b, r)

/-- `chunks (f+1) t k bs acc = .ok (b, r)` after `pull bs = some (hd, rest)`. -/
def ChunkStep (f : Nat) (t : Bool) (k : Nat) (hd : Hd) (rest acc b r : Bytes) : Prop :=
  match hd with
  | .brk => (k ≤ 1 ∧ b = acc ∧ r = rest) ∨ (¬ k ≤ 1 ∧ chunks f t (k - 1) rest acc = .ok (b, r))
  | .bytes len => t = false ∧ ChunkBody f t k len rest acc b r
  | .text len => t = true ∧ ChunkBody f t k len rest acc b r
  | _ => False

theorem chunks_ok_iff {f : Nat} {t : Bool} {k : Nat} {bs rest acc b r : Bytes} {hd : Hd} (hp : pull bs = some (hd, rest)) :
    chunks (f + 1) t k bs acc = .ok (b, r) ↔ ChunkStep f t k hd rest acc b r := by
  rw [chunks, hp]
  cases hd with
  | brk => by_cases hk : k ≤ 1 <;> simp [ChunkStep, hk, eq_comm]
  | bytes len =>
    cases t with
    | true => simp [ChunkStep]
    | false =>
      cases len with
      | none => simp [ChunkStep, ChunkBody]
      | some n =>
        simp only [ChunkStep, ChunkBody, Bool.false_eq_true, if_false, true_and]
        rw [take_ok_iff (K := fun c r' => chunks f false k r' (acc ++ c))]; simp
  | text len =>
    cases t with
    | false => simp [ChunkStep]
    | true =>
      cases len with
      | none => simp [ChunkStep, ChunkBody]
      | some n =>
        simp only [ChunkStep, ChunkBody, Bool.not_true, Bool.false_eq_true, if_false, true_and]
        rw [take_ok_iff (K := fun c r' => if !Utf8.valid c then .err else chunks f true k r' (acc ++ c))]
        simp [PR.ite_err_eq_ok]
  | _ => simp [ChunkStep]

/-- the look-ahead of `parse` behind a tag head: a definite byte string of at most 16 bytes behind tag 2 or 3 is a bignum to fold. -/
def peek (t : Nat) (rest : Bytes) : Option (Nat × Bytes) := if t = 2 ∨ t = 3 then smallBytesPeek rest else none

theorem peek_eq_some {t len : Nat} {rest rest2 : Bytes} :
    peek t rest = some (len, rest2) ↔ (t = 2 ∨ t = 3) ∧ pull rest = some (.bytes (some len), rest2) ∧ len ≤ 16 := by
  unfold peek
  by_cases h : t = 2 ∨ t = 3
  · rw [if_pos h, smallBytesPeek_eq_some]; simp [h]
  · simp [h]

/-- what the parser makes of bignum tag `t` over the big-endian bytes of `raw`. -/
def Folded (t raw : Nat) (v : Value) : Prop := if t = 2 then v = fromU128 raw else fromNegU128 raw = some v

theorem Folded.cases {t raw : Nat} {v : Value} (h : Folded t raw v) (ht : t = 2 ∨ t = 3) :
    (raw < 2 ^ 64 ∧ v = .int (if t = 2 then (raw : Int) else -1 - (raw : Int))) ∨ (2 ^ 64 ≤ raw ∧ v = .tag t (.bytes (minBytes raw))) := by
  unfold Folded fromU128 fromNegU128 at h
  by_cases hr : raw < 2 ^ 64
  · rcases ht with rfl | rfl <;> simp [hr] at h <;> exact .inl ⟨hr, by simp [h]⟩
  · rcases ht with rfl | rfl <;> simp [hr] at h <;> exact .inr ⟨by omega, by simp [h]⟩

theorem Folded.two (raw : Nat) : Folded 2 raw (fromU128 raw) := by unfold Folded; rw [if_pos rfl]

theorem Folded.three {raw : Nat} (h : raw < 2 ^ 127) : Folded 3 raw ((fromNegU128 raw).getD .null) := by
  unfold Folded fromNegU128
  rw [if_neg (by decide), if_neg (by omega)]
  split <;> rfl

/-- the body of a string item: the chunks of an indefinite-length one, or the `n` bytes of a definite-length one (a text string's
    checked to be UTF-8). -/
def StrStep (f : Nat) (t : Bool) (len : Option Nat) (rest b r : Bytes) : Prop :=
  match len with
  | none => chunks f t 1 rest [] = .ok (b, r)
  | some n => rest = b ++ r ∧ b.length = n ∧ (t = true → Utf8.valid b = true)

/-- `parse (f+1) d bs = .ok (v, r)` after `pull bs = some (hd, rest)`.  In the first case of the tag arm the look-ahead's answer
    `(len, rest2)` and the `len` bytes `b` then taken off `rest2` are said in one: `len = b.length` and `rest2 = b ++ r`. -/
def ParseStep (f d : Nat) (hd : Hd) (rest : Bytes) (v : Value) (r : Bytes) : Prop :=
  match hd with
  | .pos n => v = .int n ∧ r = rest
  | .neg n => v = .int (-1 - (n : Int)) ∧ r = rest
  | .bytes len => ∃ b, StrStep f false len rest b r ∧ v = .bytes b
  | .text len => ∃ b, StrStep f true len rest b r ∧ v = .text b
  | .array len => d ≠ 0 ∧ ∃ xs, items (fun f => parse f (d - 1)) f len rest = .ok (xs, r) ∧ v = .array xs
  | .map len => d ≠ 0 ∧ ∃ xs, items (pair fun f => parse f (d - 1)) f len rest = .ok (xs, r) ∧ v = .map xs
  | .tag t =>
    (∃ b, peek t rest = some (b.length, b ++ r) ∧ Folded t (beVal b) v) ∨
    (peek t rest = none ∧ d ≠ 0 ∧ ∃ w, parse f (d - 1) rest = .ok (w, r) ∧ v = .tag t w)
  | .float bits => v = .float (UInt64.ofNat bits) ∧ r = rest
  | .simple n => ((n = 20 ∧ v = .bool false) ∨ (n = 21 ∧ v = .bool true) ∨ ((n = 22 ∨ n = 23) ∧ v = .null)) ∧ r = rest
  | .brk => False

/-- the arms of `parse` that hand a nested result on, its value wrapped in a constructor `g`. -/
theorem wrap_ok_iff {α : Type} {x : PR (α × Bytes)} {r : Bytes} {v : Value} {g : α → Value} :
    (match x with | .ok (a, r1) => PR.ok (g a, r1) | .err => .err | .oof => .oof) = PR.ok (v, r) ↔ ∃ a, x = PR.ok (a, r) ∧ v = g a := by
  rcases x with ⟨a, r1⟩ | _ | _
  · constructor
    · intro h; cases h; exact ⟨a, rfl, rfl⟩
    · rintro ⟨_, h, rfl⟩; cases h; rfl
  · simp
  · simp

/-- the end of the tag arm of `parse` that folds a bignum, `raw` being the value of the bytes taken. -/
theorem folded_ok_iff {t raw : Nat} {r' r : Bytes} {v : Value} :
    (if t = 2 then PR.ok (fromU128 raw, r') else match fromNegU128 raw with | some v => PR.ok (v, r') | none => .err) = PR.ok (v, r) ↔
      Folded t raw v ∧ r' = r := by
  unfold Folded
  by_cases h2 : t = 2
  · simp [h2, eq_comm]
  · rw [if_neg h2, if_neg h2]; cases fromNegU128 raw <;> simp [eq_comm]

section
set_option smartUnfolding false -- the `match`es of `wrap_ok_iff` and `folded_ok_iff` are to unify with those of `parse`

theorem parse_ok_iff {f d : Nat} {bs rest : Bytes} {hd : Hd} {v : Value} {r : Bytes} (hp : pull bs = some (hd, rest)) :
    parse (f + 1) d bs = .ok (v, r) ↔ ParseStep f d hd rest v r := by
  rw [parse, hp]
  dsimp only
  cases hd with
  | pos n | neg n | float n => simp [ParseStep, eq_comm]
  | brk => simp [ParseStep]
  | simple n =>
    simp only [ParseStep]
    by_cases h20 : n = 20
    · simp [h20, eq_comm]
    · by_cases h21 : n = 21
      · simp [h21, eq_comm]
      · by_cases h22 : n = 22 ∨ n = 23
        · simp [h20, h21, h22, eq_comm]
        · simp [h20, h21, h22]
  | bytes len =>
    cases len with
    | some n =>
      simp only [ParseStep, StrStep]; rw [take_ok_iff (K := fun b r' => PR.ok (Value.bytes b, r'))]
      constructor
      · rintro ⟨b, r', h1, h2, h⟩; cases h; exact ⟨b, ⟨h1, h2, nofun⟩, rfl⟩
      · rintro ⟨b, ⟨h1, h2, -⟩, rfl⟩; exact ⟨b, r, h1, h2, rfl⟩
    | none => exact wrap_ok_iff
  | text len =>
    cases len with
    | some n =>
      simp only [ParseStep, StrStep]
      rw [take_ok_iff (K := fun b r' => if !Utf8.valid b then .err else PR.ok (Value.text b, r'))]
      simp only [PR.ite_err_eq_ok, Bool.not_eq_true', Bool.not_eq_false]
      constructor
      · rintro ⟨b, r', h1, h2, hu, h⟩; cases h; exact ⟨b, ⟨h1, h2, fun _ => hu⟩, rfl⟩
      · rintro ⟨b, ⟨h1, h2, hu⟩, rfl⟩; exact ⟨b, r, h1, h2, hu trivial, rfl⟩
    | none => exact wrap_ok_iff
  | array len =>
    simp only [ParseStep, ne_eq]
    cases len <;> simp only [PR.ite_err_eq_ok, parseN_eq, parseIndef_eq, and_congr_right_iff] <;> exact fun _ => wrap_ok_iff
  | map len =>
    simp only [ParseStep, ne_eq]
    cases len <;> simp only [PR.ite_err_eq_ok, parsePairsN_eq, parsePairsIndef_eq, and_congr_right_iff] <;> exact fun _ => wrap_ok_iff
  | tag t =>
    simp only [ParseStep, peek]
    cases (if t = 2 ∨ t = 3 then smallBytesPeek rest else none) with
    | some q =>
      obtain ⟨len, rest2⟩ := q
      simp only [reduceCtorEq, false_and, or_false, Option.some.injEq, Prod.mk.injEq]
      refine (take_ok_iff (K := fun b r' => if t = 2 then PR.ok (fromU128 (beVal b), r') else
        match fromNegU128 (beVal b) with | some v => .ok (v, r') | none => .err)).trans ?_
      constructor
      · rintro ⟨b, r', rfl, rfl, h⟩; obtain ⟨hf, rfl⟩ := folded_ok_iff.mp h; exact ⟨b, ⟨rfl, rfl⟩, hf⟩
      · rintro ⟨b, ⟨rfl, rfl⟩, h⟩; exact ⟨b, r, rfl, rfl, folded_ok_iff.mpr ⟨h, rfl⟩⟩
    | none =>
      simp only [reduceCtorEq, false_and, exists_false, false_or, true_and, ne_eq, PR.ite_err_eq_ok, and_congr_right_iff]
      exact fun _ => wrap_ok_iff

end

theorem parse_ok_step {f d : Nat} {bs : Bytes} {v : Value} {r : Bytes} (h : parse (f + 1) d bs = .ok (v, r)) :
    ∃ hd rest, pull bs = some (hd, rest) ∧ ParseStep f d hd rest v r := by
  cases hp : pull bs with
  | none => rw [parse, hp] at h; cases h
  | some p => exact ⟨p.1, p.2, rfl, (parse_ok_iff hp).mp h⟩

theorem chunks_ok_step {f : Nat} {t : Bool} {k : Nat} {bs acc b r : Bytes} (h : chunks (f + 1) t k bs acc = .ok (b, r)) :
    ∃ hd rest, pull bs = some (hd, rest) ∧ ChunkStep f t k hd rest acc b r := by
  cases hp : pull bs with
  | none => rw [chunks, hp] at h; cases h
  | some p => exact ⟨p.1, p.2, rfl, (chunks_ok_iff hp).mp h⟩

theorem parse_ok_cases {fuel d : Nat} {bs : Bytes} {v : Value} {r : Bytes} (h : parse fuel d bs = .ok (v, r)) :
    ∃ f hd rest, fuel = f + 1 ∧ pull bs = some (hd, rest) ∧ ParseStep f d hd rest v r := by
  cases fuel with
  | zero => rw [parse] at h; cases h
  | succ f =>
    obtain ⟨hd, rest, hp, hs⟩ := parse_ok_step h
    exact ⟨f, hd, rest, rfl, hp, hs⟩

theorem ne_nil_of_parse_ok {fuel d : Nat} {bs : Bytes} {v : Value} {r : Bytes} (h : parse fuel d bs = .ok (v, r)) : bs ≠ [] := by
  obtain ⟨_, hd, rest, -, hp, -⟩ := parse_ok_cases h
  intro hb; subst hb; simp [pull] at hp

theorem head_ne_ff_of_parse_ok {fuel d : Nat} {bs r : Bytes} {v : Value} (h : parse fuel d bs = .ok (v, r)) : bs.head? ≠ some 0xff := by
  obtain ⟨f, hd, rest, -, hp, hs⟩ := parse_ok_cases h
  intro hb
  cases bs with
  | nil => cases hb
  | cons b t => cases hb; rw [pull_break] at hp; cases hp; exact hs

end Coset.Cbor

namespace Coset
open Cbor

theorem readToValue_ok_iff (bs : Bytes) (v : Value) : readToValue bs = .ok v ↔ fromReader bs = .ok (v, []) := by
  unfold readToValue
  rcases fromReader bs with ⟨w, _ | ⟨a, t⟩⟩ | _ | _ <;> simp

end Coset
