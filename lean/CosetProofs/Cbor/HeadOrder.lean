/-
  The heads of the deterministic encoding are ordered, bytewise, like their major types and then their arguments.
-/
import CosetProofs.Order
import CosetProofs.Cbor.Head
namespace Coset
open Coset.Cbor Std

theorem lexCmp_beN (k n m : Nat) (hm : m < 256 ^ k) (h : n < m) : lexCmp (beN k n) (beN k m) = .lt := by
  induction k generalizing n m with
  | zero => rw [Nat.pow_zero] at hm; omega
  | succ k ih =>
    simp only [beN]
    by_cases hq : n / 256 < m / 256
    · have := ih (n / 256) (m / 256) (by rw [Nat.div_lt_iff_lt_mul (by decide)]; rw [Nat.pow_succ] at hm; exact hm) hq
      exact lexCmp_append_of_lt _ _ _ _ (by simp) this
    · have he : n / 256 = m / 256 := by
        have : n / 256 ≤ m / 256 := Nat.div_le_div_right (by omega)
        omega
      rw [he, lexCmp_append_left]
      have hmod : n % 256 < m % 256 := by
        have h1 := Nat.div_add_mod n 256; have h2 := Nat.div_add_mod m 256; omega
      have e : ∀ i, UInt8.ofNat i = UInt8.ofNat (i % 256) := fun i => UInt8.toNat_inj.mp (by simp [UInt8.toNat_ofNat'])
      rw [e n, e m]
      exact lexCmp_ofNat_lt hmod (Nat.mod_lt _ (by decide)) _ _

/-- the initial byte never decreases with the argument (`encHead_wide`), and where it stays the same the argument bytes decide. -/
theorem lexCmp_encHead_lt (mj n m : Nat) (hmj : mj < 8) (hm : m < 2 ^ 64) (h : n < m) (x y : Bytes) :
    lexCmp (encHead mj n ++ x) (encHead mj m ++ y) = .lt := by
  have minor : ∀ {a b : Nat} (t1 t2 : Bytes), a < b → b < 32 → lexCmp (UInt8.ofNat (mj * 32 + a) :: t1) (UInt8.ofNat (mj * 32 + b) :: t2) = .lt :=
    fun _ _ hab hb => lexCmp_ofNat_lt (Nat.add_lt_add_left hab _) (by omega) _ _
  by_cases hm24 : m < 24
  · rw [encHead_small mj hm24, encHead_small mj (Nat.lt_trans h hm24)]
    exact minor _ _ h (Nat.lt_trans hm24 (by decide))
  obtain ⟨j, em, hj, hjm, -⟩ := encHead_wide mj (Nat.not_lt.mp hm24)
  have hj32 : 24 + j < 32 := by omega
  rw [em]
  by_cases hn24 : n < 24
  · rw [encHead_small mj hn24]
    exact minor _ _ (Nat.lt_of_lt_of_le hn24 (Nat.le_add_right 24 j)) hj32
  obtain ⟨i, en, -, -, hmin⟩ := encHead_wide mj (Nat.not_lt.mp hn24)
  rw [en]
  rcases Nat.lt_trichotomy i j with hij | rfl | hji
  · exact minor _ _ (Nat.add_lt_add_left hij 24) hj32
  · exact (lexCmp_append_left [_] (beN _ n ++ x) (beN _ m ++ y)).trans
      (lexCmp_append_of_lt _ _ _ _ (by simp) (lexCmp_beN _ n m (hjm hm) h))
  · -- `m` fits `2 ^ j` bytes, while `n` needs more than `2 ^ (i - 1)`, which are at least as many
    have hle : 256 ^ 2 ^ j ≤ 256 ^ 2 ^ (i - 1) :=
      Nat.pow_le_pow_right (by decide) (Nat.pow_le_pow_right (by decide) (Nat.le_sub_one_of_lt hji))
    have hn := hmin.resolve_left (Nat.ne_of_gt (Nat.zero_lt_of_lt hji))
    exact absurd (Nat.lt_of_lt_of_le (Nat.lt_of_lt_of_le (hjm hm) hle) hn) (Nat.lt_asymm h)

theorem lexCmp_encHead_major (m1 m2 n1 n2 : Nat) (h : m1 < m2) (h2 : m2 < 8) (x y : Bytes) :
    lexCmp (encHead m1 n1 ++ x) (encHead m2 n2 ++ y) = .lt := by
  obtain ⟨a, t1, e1, ha⟩ := encHead_initial m1 n1
  obtain ⟨b, t2, e2, hb⟩ := encHead_initial m2 n2
  rw [e1, e2]
  exact lexCmp_ofNat_lt (by omega) (by omega) _ _

theorem lexCmp_encHead_arg (mj n m : Nat) (hmj : mj < 8) (hn : n < 2 ^ 64) (hm : m < 2 ^ 64) (x y : Bytes) :
    lexCmp (encHead mj n ++ x) (encHead mj m ++ y) = (compare n m).then (lexCmp x y) := by
  rcases Nat.lt_trichotomy n m with h | rfl | h
  · rw [lexCmp_encHead_lt mj n m hmj hm h, Nat.compare_eq_lt.mpr h]; rfl
  · rw [lexCmp_append_left, Nat.compare_eq_eq.mpr rfl]; rfl
  · rw [OrientedCmp.eq_swap (cmp := lexCmp), lexCmp_encHead_lt mj m n hmj hn h, Nat.compare_eq_gt.mpr h]; rfl

end Coset
