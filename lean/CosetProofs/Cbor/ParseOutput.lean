/-
  L7: what the parser returns.  Every value `parse` yields has integers in CBOR's range, valid UTF-8 text, tag numbers below 2^64,
  and nests no deeper than the recursion budget it was given; with L6 (its size is bounded by the input) every length in it is below
  2^64.  So a parsed value is `Normal` — one the serializer represents faithfully — as soon as it contains no *short* bignum tag
  other than the canonical big form the parser itself produces (`NoSB`): the one exception, known finding D3.
-/
import CosetProofs.Cbor.Roundtrip
import CosetProofs.Cbor.Weight
namespace Coset.Cbor
open Coset

mutual
/-- the part of `Normal` the parser guarantees by construction. -/
def PNormal : Value → Prop
  | .int n => -(2 ^ 64 : Int) ≤ n ∧ n < 2 ^ 64
  | .text b => Utf8.valid b = true
  | .tag t v => t < 2 ^ 64 ∧ PNormal v
  | .array xs => PNormalL xs
  | .map kvs => PNormalP kvs
  | _ => True
def PNormalL : List Value → Prop
  | [] => True
  | x :: xs => PNormal x ∧ PNormalL xs
def PNormalP : List (Value × Value) → Prop
  | [] => True
  | (k, v) :: kvs => PNormal k ∧ PNormal v ∧ PNormalP kvs
end

mutual
/-- no bignum tag over a short byte string, except in the canonical big form (`CanonBig`). -/
def NoSB : Value → Prop
  | .tag t v => (SmallBignum t v → CanonBig t v) ∧ NoSB v
  | .array xs => NoSBL xs
  | .map kvs => NoSBP kvs
  | _ => True
def NoSBL : List Value → Prop
  | [] => True
  | x :: xs => NoSB x ∧ NoSBL xs
def NoSBP : List (Value × Value) → Prop
  | [] => True
  | (k, v) :: kvs => NoSB k ∧ NoSB v ∧ NoSBP kvs
end

theorem parse_output_aux : ∀ fuel,
    (∀ {d bs v r}, parse fuel d bs = .ok (v, r) → PNormal v ∧ depthOf v ≤ d) ∧
    (∀ {d n bs xs r}, items (fun f => parse f d) fuel n bs = .ok (xs, r) → PNormalL xs ∧ depthOfL xs ≤ d) ∧
    (∀ {d n bs xs r}, items (pair fun f => parse f d) fuel n bs = .ok (xs, r) → PNormalP xs ∧ depthOfP xs ≤ d) := by
  intro fuel
  induction fuel with
  | zero => exact ⟨by simp [parse], by simp [items], by simp [items]⟩
  | succ fuel ih =>
    obtain ⟨ihv, ihl, ihp⟩ := ih
    refine ⟨?_, ?_, ?_⟩
    · intro d bs v r h
      obtain ⟨hd, rest, hp, hs⟩ := parse_ok_step h
      have hb := pull_arg_lt hp
      cases hd with
      | pos n => have := hb n (.inl rfl); rw [hs.1]; simp only [PNormal, depthOf]; omega
      | neg n => have := hb n (.inr (.inl rfl)); rw [hs.1]; simp only [PNormal, depthOf]; omega
      | float bits => rw [hs.1]; simp [PNormal, depthOf]
      | simple n => obtain ⟨h | h | h, -⟩ := hs <;> (rw [h.2]; simp [PNormal, depthOf])
      | brk => exact hs.elim
      | bytes len => obtain ⟨b, -, rfl⟩ := hs; simp [PNormal, depthOf]
      | text len =>
        obtain ⟨b, hstr, rfl⟩ := hs
        simp only [PNormal, depthOf, Nat.zero_le, and_true]
        cases len with
        | some n => exact hstr.2.2 rfl
        | none => obtain ⟨c, rfl, -, hu⟩ := chunks_content hstr; exact hu rfl
      | array len => obtain ⟨hd0, xs, hc, rfl⟩ := hs; have := ihl hc; simp only [PNormal, depthOf]; exact ⟨this.1, by omega⟩
      | map len => obtain ⟨hd0, xs, hc, rfl⟩ := hs; have := ihp hc; simp only [PNormal, depthOf]; exact ⟨this.1, by omega⟩
      | tag t =>
        rcases hs with ⟨b, hpk, hv⟩ | ⟨-, hd0, w, hc, rfl⟩
        · obtain ⟨h23, -, h16⟩ := peek_eq_some.mp hpk
          rcases hv.cases h23 with ⟨hr, rfl⟩ | ⟨-, rfl⟩
          · simp only [PNormal, depthOf, Nat.zero_le, and_true]; split <;> omega
          · have := minBytes_beVal_length b h16
            have : foldedTag t (.bytes (minBytes (beVal b))) = true := (foldedTag_iff _ _).mpr ⟨h23, _, rfl, by omega⟩
            simp only [PNormal, depthOf, this, if_true, Nat.zero_le, and_true]; omega
        · have := ihv hc
          have hle := depthOf_tag_le t w
          simp only [PNormal]; exact ⟨⟨hb t (.inr (.inr rfl)), this.1⟩, by omega⟩
    · intro d n bs xs r h
      rcases items_ok_iff.mp h with ⟨-, rfl⟩ | ⟨-, v, r1, ys, hv, hc, rfl⟩
      · simp [PNormalL, depthOfL]
      · have h1 := ihv hv; have h2 := ihl hc
        simp only [PNormalL, depthOfL]; exact ⟨⟨h1.1, h2.1⟩, Nat.max_le.mpr ⟨h1.2, h2.2⟩⟩
    · intro d n bs xs r h
      rcases items_ok_iff.mp h with ⟨-, rfl⟩ | ⟨-, ⟨k, v⟩, r2, ys, hkv, hc, rfl⟩
      · simp [PNormalP, depthOfP]
      · obtain ⟨r1, hk, hv⟩ := pair_ok_iff.mp hkv
        have h1 := ihv hk; have h2 := ihv hv; have h3 := ihp hc
        simp only [PNormalP, depthOfP]; exact ⟨⟨h1.1, h2.1, h3.1⟩, Nat.max_le.mpr ⟨Nat.max_le.mpr ⟨h1.2, h2.2⟩, h3.2⟩⟩

theorem parse_output (fuel d : Nat) (bs : Bytes) (v : Value) (r : Bytes) (h : parse fuel d bs = .ok (v, r)) :
    PNormal v ∧ depthOf v ≤ d := (parse_output_aux fuel).1 h

mutual
theorem normal_of (v : Value) (hp : PNormal v) (hs : NoSB v) (hz : v.size < 2 ^ 64) : Normal v := by
  cases v with
  | int n => simpa [Normal, PNormal] using hp
  | bytes b => simp only [Value.size] at hz; simp only [Normal]; omega
  | text b => simp only [Value.size] at hz; simp only [PNormal] at hp; simp only [Normal]; exact ⟨by omega, hp⟩
  | float f => simp [Normal]
  | bool b => simp [Normal]
  | null => simp [Normal]
  | tag t w =>
    simp only [PNormal] at hp; simp only [NoSB] at hs; simp only [Value.size] at hz
    simp only [Normal]; exact ⟨hp.1, hs.1, normal_of w hp.2 hs.2 (by omega)⟩
  | array xs =>
    simp only [PNormal] at hp; simp only [NoSB] at hs; simp only [Value.size] at hz
    have := length_le_sizeL xs
    simp only [Normal]; exact ⟨by omega, normalL_of xs hp hs (by omega)⟩
  | map kvs =>
    simp only [PNormal] at hp; simp only [NoSB] at hs; simp only [Value.size] at hz
    have := length_le_sizeP kvs
    simp only [Normal]; exact ⟨by omega, normalP_of kvs hp hs (by omega)⟩
theorem normalL_of (xs : List Value) (hp : PNormalL xs) (hs : NoSBL xs) (hz : Value.sizeL xs < 2 ^ 64) : NormalL xs := by
  cases xs with
  | nil => simp [NormalL]
  | cons x xs =>
    simp only [PNormalL] at hp; simp only [NoSBL] at hs; simp only [Value.sizeL] at hz
    simp only [NormalL]; exact ⟨normal_of x hp.1 hs.1 (by omega), normalL_of xs hp.2 hs.2 (by omega)⟩
theorem normalP_of (kvs : List (Value × Value)) (hp : PNormalP kvs) (hs : NoSBP kvs) (hz : Value.sizeP kvs < 2 ^ 64) : NormalP kvs := by
  cases kvs with
  | nil => simp [NormalP]
  | cons kv kvs =>
    obtain ⟨k, v⟩ := kv
    simp only [PNormalP] at hp; simp only [NoSBP] at hs; simp only [Value.sizeP] at hz
    simp only [NormalP]; exact ⟨normal_of k hp.1 hs.1 (by omega), normal_of v hp.2.1 hs.2.1 (by omega), normalP_of kvs hp.2.2 hs.2.2 (by omega)⟩
end

theorem size_lt_of (x : Nat) : x < 2 ^ 64 → True := fun _ => trivial

end Coset.Cbor

namespace Coset
open Cbor

/-- `hl` is the bound a length needs to fit a head (a Rust slice has fewer than 2^63 bytes).  By `readToValue_enc` the serializer's
    output for such a `v` parses back to it. -/
theorem readToValue_normal (bs : Bytes) (v : Value) (h : readToValue bs = .ok v) (hl : bs.length < 2 ^ 64) (hs : NoSB v) :
    Normal v ∧ depthOf v ≤ recursionLimit := by
  have hz := readToValue_size bs v h
  have := parse_output _ _ _ _ _ ((readToValue_ok_iff bs v).mp h)
  exact ⟨normal_of v this.1 hs (by omega), this.2⟩

end Coset
