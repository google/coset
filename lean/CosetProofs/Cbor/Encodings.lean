/-
  L2: the parser reads *every* well-formed encoding of a data item — any head widths, definite or indefinite lengths, any chunking
  of strings, any float width, bignum forms of integers — as the data-model value the encoding denotes (`CosetSpec.Encodings`), and
  leaves what follows untouched.  Consequently everything coset computes from bytes is a function of the data-model value alone.
-/
import CosetSpec.Encodings
import CosetModel.Api
import CosetProofs.Cbor.Normal
import CosetProofs.Cbor.ParseInv
namespace Coset.Cbor
open Coset Coset.Spec

theorem shortBignum_iff (t : Nat) (v : Value) : ShortBignum t v ↔ SmallBignum t v := Iff.rfl

theorem fits_lt (w : W) (n : Nat) (h : w.fits n) : n < 2 ^ 64 := by
  cases w <;> simp only [W.fits] at h <;> omega

theorem valueL_length (es : List E) : (E.valueL es).length = es.length := by
  induction es with
  | nil => rfl
  | cons e es ih => simp [E.valueL, ih]
theorem valueP_length (kvs : List (E × E)) : (E.valueP kvs).length = kvs.length := by
  induction kvs with
  | nil => rfl
  | cons kv kvs ih => obtain ⟨k, v⟩ := kv; simp [E.valueP, ih]

mutual
/-- fuel that suffices for `parse` to read a choice of encoding (`parse_encoding`); what the entry point supplies covers it (`efuel_le`). -/
def efuel : E → Nat
  | .bstrI cs => cs.length + 2
  | .tstrI cs => cs.length + 2
  | .tag _ _ e => efuel e + 1
  | .arr _ es => efuelL es + 1
  | .map _ kvs => efuelP kvs + 1
  | _ => 1
def efuelL : List E → Nat
  | [] => 1
  | e :: es => efuel e + efuelL es + 1
def efuelP : List (E × E) → Nat
  | [] => 1
  | (k, v) :: kvs => efuel k + efuel v + efuelP kvs + 1
end

theorem efuel_pos (e : E) : 0 < efuel e := by cases e <;> simp [efuel]

/-- the chunks of an indefinite-length string, up to and including the break (major type 3 for text, 2 for bytes). -/
theorem chunks_encoding (t : Bool) :
    ∀ (cs : Chunks) (fuel : Nat) (acc s : Bytes), cs.length + 1 ≤ fuel → chunksFit cs → (t = true → chunksUtf8 cs) →
      chunks fuel t 1 (chunkBytes (if t then 3 else 2) cs ++ 0xff :: s) acc = .ok (acc ++ chunkContent cs, s) := by
  intro cs
  induction cs with
  | nil =>
    intro fuel acc s hf _ _
    obtain ⟨f, rfl⟩ : ∃ f, fuel = f + 1 := ⟨fuel - 1, by simp at hf; omega⟩
    exact (chunks_ok_iff (pull_break s)).mpr (.inl ⟨Nat.le_refl 1, by simp [chunkContent], rfl⟩)
  | cons c cs ih =>
    obtain ⟨w, b⟩ := c
    intro fuel acc s hf hfit hutf
    obtain ⟨f, rfl⟩ : ∃ f, fuel = f + 1 := ⟨fuel - 1, by simp at hf; omega⟩
    have hrec := ih f (acc ++ b) s (by simp at hf ⊢; omega) hfit.2 (fun ht => (hutf ht).2)
    simp only [chunkBytes, chunkContent, List.append_assoc] at hrec ⊢
    cases t with
    | false => exact (chunks_ok_iff (pull_headW 2 w _ (by omega) hfit.1 _)).mpr ⟨rfl, b, _, rfl, rfl, nofun, hrec⟩
    | true => exact (chunks_ok_iff (pull_headW 3 w _ (by omega) hfit.1 _)).mpr ⟨rfl, b, _, rfl, rfl, fun _ => (hutf rfl).1, hrec⟩

theorem pull_5f (rest : Bytes) : pull (0x5f :: rest) = some (.bytes none, rest) := by rfl
theorem pull_7f (rest : Bytes) : pull (0x7f :: rest) = some (.text none, rest) := by rfl
theorem pull_9f (rest : Bytes) : pull (0x9f :: rest) = some (.array none, rest) := by rfl
theorem pull_bf (rest : Bytes) : pull (0xbf :: rest) = some (.map none, rest) := by rfl

theorem peek_of_parse_ok {fuel d t len : Nat} {bs r rest2 : Bytes} {v : Value} (h : parse fuel d bs = .ok (v, r))
    (hpk : peek t bs = some (len, rest2)) : SmallBignum t v := by
  obtain ⟨h23, hp2, h16⟩ := peek_eq_some.mp hpk
  obtain ⟨f, hd, rest, -, hp, hs⟩ := parse_ok_cases h
  rw [hp2] at hp; cases hp
  obtain ⟨b, hb, rfl⟩ := hs
  exact ⟨h23, b, rfl, by rw [hb.2.1]; exact h16⟩

/-- L2 for `parse`, for the arrays and for the maps it reads: each step is `parse_ok_iff` or `items_ok_iff` read from right to left. -/
theorem parse_encoding_aux : ∀ fuel,
    (∀ e d s, E.wf e → depthOf (E.value e) ≤ d → efuel e ≤ fuel → parse fuel d (E.bytes e ++ s) = .ok (E.value e, s)) ∧
    (∀ es d s, E.wfL es → depthOfL (E.valueL es) ≤ d → efuelL es ≤ fuel →
      items (fun f => parse f d) fuel (some es.length) (E.bytesL es ++ s) = .ok (E.valueL es, s) ∧
      items (fun f => parse f d) fuel none (E.bytesL es ++ 0xff :: s) = .ok (E.valueL es, s)) ∧
    (∀ kvs d s, E.wfP kvs → depthOfP (E.valueP kvs) ≤ d → efuelP kvs ≤ fuel →
      items (pair fun f => parse f d) fuel (some kvs.length) (E.bytesP kvs ++ s) = .ok (E.valueP kvs, s) ∧
      items (pair fun f => parse f d) fuel none (E.bytesP kvs ++ 0xff :: s) = .ok (E.valueP kvs, s)) := by
  intro fuel
  induction fuel with
  | zero =>
    refine ⟨?_, ?_, ?_⟩
    · intro e d s _ _ h; have := efuel_pos e; omega
    · intro es d s _ _ h; cases es <;> simp [efuelL] at h
    · intro kvs d s _ _ h; cases kvs <;> simp [efuelP] at h
  | succ fuel ih =>
    obtain ⟨ihv, ihl, ihp⟩ := ih
    refine ⟨?_, ?_, ?_⟩
    · intro e d s hw hd hs
      cases e with
      | pos w n => exact (parse_ok_iff (pull_headW 0 w n (by omega) hw s)).mpr ⟨rfl, rfl⟩
      | neg w n => exact (parse_ok_iff (pull_headW 1 w n (by omega) hw s)).mpr ⟨rfl, rfl⟩
      | big ng wt wb b =>
        obtain ⟨h1, h2, h3, h4⟩ := hw
        simp only [E.bytes, List.append_assoc]
        refine (parse_ok_iff (pull_headW 6 wt _ (by omega) h1 _)).mpr (Or.inl ⟨b, ?_, ?_⟩)
        · exact peek_eq_some.mpr ⟨by cases ng <;> simp, pull_headW 2 wb _ (by omega) h2 (b ++ s), h3⟩
        · cases ng
          · exact Folded.two _
          · exact Folded.three (h4 rfl)
      | bstr w b =>
        simp only [E.bytes, List.append_assoc]
        exact (parse_ok_iff (pull_headW 2 w _ (by omega) hw _)).mpr ⟨b, ⟨rfl, rfl, nofun⟩, rfl⟩
      | bstrI cs =>
        simp only [efuel] at hs
        simp only [E.bytes, List.cons_append, List.append_assoc, List.nil_append]
        exact (parse_ok_iff (pull_5f _)).mpr ⟨_, chunks_encoding false cs fuel [] s (by omega) hw nofun, by simp [E.value]⟩
      | tstr w b =>
        simp only [E.bytes, List.append_assoc]
        exact (parse_ok_iff (pull_headW 3 w _ (by omega) hw.1 _)).mpr ⟨b, ⟨rfl, rfl, fun _ => hw.2⟩, rfl⟩
      | tstrI cs =>
        simp only [efuel] at hs
        simp only [E.bytes, List.cons_append, List.append_assoc, List.nil_append]
        exact (parse_ok_iff (pull_7f _)).mpr ⟨_, chunks_encoding true cs fuel [] s (by omega) hw.1 (fun _ => hw.2), by simp [E.value]⟩
      | f16 n =>
        simp only [E.wf] at hw
        exact (parse_ok_iff (pull_head (m := 7) (by decide) (.beN (i := 1) (by decide) hw) rfl s)).mpr ⟨rfl, rfl⟩
      | f32 n =>
        simp only [E.wf] at hw
        exact (parse_ok_iff (pull_head (m := 7) (by decide) (.beN (i := 2) (by decide) hw) rfl s)).mpr ⟨rfl, rfl⟩
      | f64 n =>
        simp only [E.wf] at hw
        exact (parse_ok_iff (pull_head (m := 7) (by decide) (.beN (i := 3) (by decide) hw) rfl s)).mpr ⟨rfl, rfl⟩
      | simple two n =>
        simp only [E.wf] at hw
        have hv : (n = 20 ∧ simpleValue n = .bool false) ∨ (n = 21 ∧ simpleValue n = .bool true) ∨ ((n = 22 ∨ n = 23) ∧ simpleValue n = .null) := by
          unfold simpleValue
          by_cases h20 : n = 20
          · exact .inl ⟨h20, if_pos h20⟩
          · by_cases h21 : n = 21
            · exact .inr (.inl ⟨h21, by rw [if_neg h20, if_pos h21]⟩)
            · exact .inr (.inr ⟨by omega, by rw [if_neg h20, if_neg h21]⟩)
        cases two
        · exact (parse_ok_iff (pull_head (m := 7) (by decide) (.small (by omega)) rfl s)).mpr ⟨hv, rfl⟩
        · exact (parse_ok_iff (pull_head (m := 7) (by decide) (.beN (i := 0) (by decide) (by omega)) rfl s)).mpr ⟨hv, rfl⟩
      | tag w t e =>
        obtain ⟨hwt, hwe, hns⟩ := hw
        rw [shortBignum_iff] at hns
        simp only [efuel] at hs
        simp only [E.value] at hd ⊢
        rw [depthOf_tag_of_not_small t _ hns] at hd
        simp only [E.bytes, List.append_assoc]
        have hin := ihv e (d - 1) s hwe (by omega) (by omega)
        refine (parse_ok_iff (pull_headW 6 w _ (by omega) hwt _)).mpr (Or.inr ⟨?_, by omega, _, hin, rfl⟩)
        cases hpk : peek t (E.bytes e ++ s) with
        | none => rfl
        | some q => exact absurd (peek_of_parse_ok hin hpk) hns
      | arr w es =>
        simp only [efuel] at hs
        simp only [E.value, depthOf] at hd ⊢
        have hes := ihl es (d - 1) s hw.2 (by omega) (by omega)
        cases w with
        | some w' =>
          simp only [E.bytes, List.append_assoc]
          exact (parse_ok_iff (pull_headW 4 w' _ (by omega) (hw.1 w' rfl) _)).mpr ⟨by omega, _, hes.1, rfl⟩
        | none =>
          simp only [E.bytes, List.cons_append, List.append_assoc, List.nil_append]
          exact (parse_ok_iff (pull_9f _)).mpr ⟨by omega, _, hes.2, rfl⟩
      | map w kvs =>
        simp only [efuel] at hs
        simp only [E.value, depthOf] at hd ⊢
        have hes := ihp kvs (d - 1) s hw.2 (by omega) (by omega)
        cases w with
        | some w' =>
          simp only [E.bytes, List.append_assoc]
          exact (parse_ok_iff (pull_headW 5 w' _ (by omega) (hw.1 w' rfl) _)).mpr ⟨by omega, _, hes.1, rfl⟩
        | none =>
          simp only [E.bytes, List.cons_append, List.append_assoc, List.nil_append]
          exact (parse_ok_iff (pull_bf _)).mpr ⟨by omega, _, hes.2, rfl⟩
    · intro es d s hw hd hs
      cases es with
      | nil => exact ⟨items_ok_iff.mpr (.inl ⟨rfl, rfl⟩), items_ok_iff.mpr (.inl ⟨rfl, rfl⟩)⟩
      | cons e es =>
        simp only [E.valueL, depthOfL, Nat.max_le] at hd
        simp only [efuelL] at hs
        simp only [E.bytesL, E.valueL, List.append_assoc, List.length_cons]
        have he := fun s => ihv e d s hw.1 hd.1 (by omega)
        have hes := ihl es d s hw.2 hd.2 (by omega)
        exact ⟨items_ok_iff.mpr (.inr ⟨rfl, _, _, _, he _, hes.1, rfl⟩),
          items_ok_iff.mpr (.inr ⟨listEnd_eq_none.mpr (.inr ⟨rfl, head_ne_ff_of_parse_ok (he _)⟩), _, _, _, he _, hes.2, rfl⟩)⟩
    · intro kvs d s hw hd hs
      cases kvs with
      | nil => exact ⟨items_ok_iff.mpr (.inl ⟨rfl, rfl⟩), items_ok_iff.mpr (.inl ⟨rfl, rfl⟩)⟩
      | cons kv kvs =>
        obtain ⟨k, v⟩ := kv
        simp only [E.valueP, depthOfP, Nat.max_le] at hd
        simp only [efuelP] at hs
        simp only [E.bytesP, E.valueP, List.append_assoc, List.length_cons]
        have hk := fun s => ihv k d s hw.1 hd.1.1 (by omega)
        have hkv := fun s => pair_ok_iff.mpr ⟨_, hk _, ihv v d s hw.2.1 hd.1.2 (by omega)⟩
        have hes := ihp kvs d s hw.2.2 hd.2 (by omega)
        exact ⟨items_ok_iff.mpr (.inr ⟨rfl, _, _, _, hkv _, hes.1, rfl⟩),
          items_ok_iff.mpr (.inr ⟨listEnd_eq_none.mpr (.inr ⟨rfl, head_ne_ff_of_parse_ok (hk _)⟩), _, _, _, hkv _, hes.2, rfl⟩)⟩

/-- L2: one item, with anything after it. -/
theorem parse_encoding (e : E) (fuel d : Nat) (s : Bytes) (hw : e.wf) (hd : depthOf e.value ≤ d) (hf : efuel e ≤ fuel) :
    parse fuel d (E.bytes e ++ s) = .ok (e.value, s) := (parse_encoding_aux fuel).1 e d s hw hd hf

theorem chunkBytes_length (m : Nat) (cs : Chunks) : cs.length ≤ (chunkBytes m cs).length := by
  induction cs with
  | nil => simp [chunkBytes]
  | cons c cs ih =>
    obtain ⟨w, b⟩ := c
    have := headW_length_pos m w b.length
    simp only [chunkBytes, List.length_cons, List.length_append]; omega

mutual
/-- the fuel the entry point supplies (`fuelFor`) is enough for any encoding. -/
theorem efuel_le (e : E) : efuel e + 1 ≤ 3 * (E.bytes e).length := by
  cases e with
  | pos w n => have := headW_length_pos 0 w n; simp only [efuel, E.bytes]; omega
  | neg w n => have := headW_length_pos 1 w n; simp only [efuel, E.bytes]; omega
  | big ng wt wb b => have := headW_length_pos 6 wt (if ng then 3 else 2); simp only [efuel, E.bytes, List.length_append]; omega
  | bstr w b => have := headW_length_pos 2 w b.length; simp only [efuel, E.bytes, List.length_append]; omega
  | bstrI cs => have := chunkBytes_length 2 cs; simp only [efuel, E.bytes, List.length_cons, List.length_append, List.length_nil]; omega
  | tstr w b => have := headW_length_pos 3 w b.length; simp only [efuel, E.bytes, List.length_append]; omega
  | tstrI cs => have := chunkBytes_length 3 cs; simp only [efuel, E.bytes, List.length_cons, List.length_append, List.length_nil]; omega
  | f16 n => simp [efuel, E.bytes]
  | f32 n => simp [efuel, E.bytes]
  | f64 n => simp [efuel, E.bytes]
  | simple two n => cases two <;> simp [efuel, E.bytes]
  | tag w t e => have := headW_length_pos 6 w t; have := efuel_le e; simp only [efuel, E.bytes, List.length_append]; omega
  | arr w es =>
    have := efuelL_le es
    cases w with
    | some w' => have := headW_length_pos 4 w' es.length; simp only [efuel, E.bytes, List.length_append]; omega
    | none => simp only [efuel, E.bytes, List.length_cons, List.length_append, List.length_nil]; omega
  | map w kvs =>
    have := efuelP_le kvs
    cases w with
    | some w' => have := headW_length_pos 5 w' kvs.length; simp only [efuel, E.bytes, List.length_append]; omega
    | none => simp only [efuel, E.bytes, List.length_cons, List.length_append, List.length_nil]; omega
theorem efuelL_le (es : List E) : efuelL es ≤ 3 * (E.bytesL es).length + 1 := by
  cases es with
  | nil => simp [efuelL, E.bytesL]
  | cons e es => have := efuel_le e; have := efuelL_le es; simp only [efuelL, E.bytesL, List.length_append]; omega
theorem efuelP_le (kvs : List (E × E)) : efuelP kvs ≤ 3 * (E.bytesP kvs).length + 1 := by
  cases kvs with
  | nil => simp [efuelP, E.bytesP]
  | cons kv kvs =>
    obtain ⟨k, v⟩ := kv
    have := efuel_le k; have := efuel_le v; have := efuelP_le kvs
    simp only [efuelP, E.bytesP, List.length_append]; omega
end

theorem _root_.Coset.Spec.E.bytes_ne_nil (e : E) : e.bytes ≠ [] := by
  intro h
  have h1 := efuel_le e; have h2 := efuel_pos e
  rw [h] at h1; simp only [List.length_nil] at h1; omega

end Coset.Cbor

namespace Coset
open Cbor Spec

/-- L2 at the API. -/
theorem readToValue_encoding (e : E) (hw : e.wf) (hd : depthOf e.value ≤ recursionLimit) : readToValue e.bytes = .ok e.value := by
  have h := parse_encoding e (fuelFor e.bytes) recursionLimit [] hw hd (by have := efuel_le e; unfold fuelFor; omega)
  simp only [List.append_nil] at h
  simp [readToValue, fromReader, h]

theorem readToValue_of_encodes (v : Value) (b : Bytes) (h : Encodes v b) (hd : depthOf v ≤ recursionLimit) : readToValue b = .ok v := by
  obtain ⟨e, hw, rfl, rfl⟩ := h
  exact readToValue_encoding e hw hd

theorem readToValue_encoding_independent (v : Value) (b₁ b₂ : Bytes) (h₁ : Encodes v b₁) (h₂ : Encodes v b₂) (hd : depthOf v ≤ recursionLimit) :
    readToValue b₁ = readToValue b₂ := by
  rw [readToValue_of_encodes v b₁ h₁ hd, readToValue_of_encodes v b₂ h₂ hd]

/-- every byte-level decoder (`from_slice` of any type). -/
theorem fromSlice_encoding_independent {α : Type} (conv : Value → Res α) (v : Value) (b₁ b₂ : Bytes) (h₁ : Encodes v b₁) (h₂ : Encodes v b₂)
    (hd : depthOf v ≤ recursionLimit) : fromSlice conv b₁ = fromSlice conv b₂ := by
  simp only [fromSlice, readToValue_encoding_independent v b₁ b₂ h₁ h₂ hd]

theorem fromSlice_of_encodes {α : Type} (conv : Value → Res α) (v : Value) (b : Bytes) (h : Encodes v b) (hd : depthOf v ≤ recursionLimit) :
    fromSlice conv b = conv v := by
  simp only [fromSlice, readToValue_of_encodes v b h hd]

/-! ### the deterministic encoding is one of the well-formed encodings -/

/-- the shortest width that fits. -/
def minW (n : Nat) : W :=
  if n < 24 then .w0 else if n < 256 then .w1 else if n < 65536 then .w2 else if n < 4294967296 then .w4 else .w8

/-- `minW` and `encHead` go through the same thresholds. -/
theorem headW_minW (m n : Nat) : headW m (minW n) n = encHead m n := by
  simp only [minW, encHead, apply_ite (fun w => headW m w n)]; rfl

theorem minW_fits (n : Nat) (h : n < 2 ^ 64) : (minW n).fits n := by
  simp only [minW, apply_ite (fun w => W.fits w n)]
  simp only [W.fits, ite_then_self]
  intros; omega

mutual
/-- the choice of encoding ciborium's serializer makes. -/
def ofValue : Value → E
  | .int n => if 0 ≤ n then .pos (minW n.toNat) n.toNat else .neg (minW (-1 - n).toNat) (-1 - n).toNat
  | .bytes b => .bstr (minW b.length) b
  | .text b => .tstr (minW b.length) b
  | .float bits =>
    if Float.f16to64 (Float.f64to16 bits.toNat % 65536) = bits.toNat then .f16 (Float.f64to16 bits.toNat % 65536)
    else if Float.f32to64 (Float.f64to32 bits.toNat % 4294967296) = bits.toNat then .f32 (Float.f64to32 bits.toNat % 4294967296)
    else .f64 bits.toNat
  | .bool b => .simple false (if b then 21 else 20)
  | .null => .simple false 22
  | .tag t v =>
    match v with
    | .bytes b =>
      if (t = 2 ∨ t = 3) ∧ b.length ≤ 16 then (if t = 3 then .big true .w0 (minW b.length) b else .big false .w0 (minW b.length) b)
      else .tag (minW t) t (.bstr (minW b.length) b)
    | w => .tag (minW t) t (ofValue w)
  | .array xs => .arr (some (minW xs.length)) (ofValueL xs)
  | .map kvs => .map (some (minW kvs.length)) (ofValueP kvs)
def ofValueL : List Value → List E
  | [] => []
  | x :: xs => ofValue x :: ofValueL xs
def ofValueP : List (Value × Value) → List (E × E)
  | [] => []
  | (k, v) :: kvs => (ofValue k, ofValue v) :: ofValueP kvs
end

theorem ofValueL_length (xs : List Value) : (ofValueL xs).length = xs.length := by
  induction xs with
  | nil => rfl
  | cons x xs ih => simp [ofValueL, ih]
theorem ofValueP_length (kvs : List (Value × Value)) : (ofValueP kvs).length = kvs.length := by
  induction kvs with
  | nil => rfl
  | cons kv kvs ih => obtain ⟨k, v⟩ := kv; simp [ofValueP, ih]

theorem ofValue_tag (t : Nat) (w : Value) (h : ∀ b, w ≠ .bytes b) : ofValue (.tag t w) = .tag (minW t) t (ofValue w) := by
  rw [ofValue]; exact h

mutual
theorem ofValue_spec (v : Value) (hn : Normal v) : (ofValue v).wf ∧ (ofValue v).value = v ∧ (ofValue v).bytes = enc v := by
  cases v with
  | int n =>
    simp only [Normal] at hn
    simp only [ofValue, enc]
    split
    · next h =>
      refine ⟨minW_fits _ (by omega), ?_, headW_minW 0 _⟩
      simp only [E.value]; rw [Int.toNat_of_nonneg h]
    · next h =>
      refine ⟨minW_fits _ (by omega), ?_, headW_minW 1 _⟩
      simp only [E.value]; rw [Int.toNat_of_nonneg (by omega)]; congr 1; omega
  | bytes b =>
    simp only [Normal] at hn
    exact ⟨minW_fits _ hn, rfl, by simp only [ofValue, E.bytes, enc, headW_minW]⟩
  | text b =>
    simp only [Normal] at hn
    exact ⟨⟨minW_fits _ hn.1, hn.2⟩, rfl, by simp only [ofValue, E.bytes, enc, headW_minW]⟩
  | float bits =>
    have hb := bits.toNat_lt
    simp only [ofValue, enc, encFloat]
    split
    · next h => exact ⟨by simp only [E.wf]; omega, by simp [E.value, h], rfl⟩
    · split
      · next h => exact ⟨by simp only [E.wf]; omega, by simp [E.value, h], rfl⟩
      · exact ⟨by simp only [E.wf]; omega, by simp [E.value], rfl⟩
  | bool b => cases b <;> exact ⟨by simp [ofValue, E.wf], by simp [ofValue, E.value, simpleValue], by simp [ofValue, E.bytes, enc]⟩
  | null => exact ⟨by simp [ofValue, E.wf], by simp [ofValue, E.value, simpleValue], by simp [ofValue, E.bytes, enc]⟩
  | tag t w =>
    simp only [Normal] at hn
    obtain ⟨ht, hsb, hw⟩ := hn
    by_cases hb : ∃ b, w = .bytes b
    · obtain ⟨b, rfl⟩ := hb
      simp only [Normal] at hw
      simp only [ofValue]
      split
      · next hc =>
        -- the canonical big form: the reader's folding of `b` gives the tag over the minimal bytes of `beVal b`, which are `b`
        obtain ⟨hmin, h64, h127⟩ := CanonBig.of_bytes hc.1 (hsb ⟨hc.1, b, rfl, hc.2⟩)
        have e2 : headW 6 W.w0 2 = encHead 6 2 := by rfl
        have e3 : headW 6 W.w0 3 = encHead 6 3 := by rfl
        rcases hc.1 with h | h
        · subst h
          rw [if_neg (by decide)]
          refine ⟨?_, ?_, ?_⟩
          · simp only [E.wf]; exact ⟨by simp [W.fits], minW_fits _ hw, hc.2, by simp⟩
          · simp only [E.value, fromU128, if_neg (Nat.not_lt.mpr h64), hmin]
          · simp only [E.bytes, enc, Bool.false_eq_true, if_false, e2, headW_minW, List.append_assoc]
        · subst h
          have := h127 rfl
          rw [if_pos rfl]
          refine ⟨?_, ?_, ?_⟩
          · simp only [E.wf]; exact ⟨by simp [W.fits], minW_fits _ hw, hc.2, fun _ => this⟩
          · simp only [E.value, fromNegU128, if_neg (Nat.not_le.mpr this), if_neg (Nat.not_lt.mpr h64), hmin, Option.getD_some]
          · simp only [E.bytes, enc, if_true, e3, headW_minW, List.append_assoc]
      · next hc =>
        refine ⟨?_, rfl, by simp only [E.bytes, enc, headW_minW]⟩
        simp only [E.wf, E.value]
        refine ⟨minW_fits _ ht, minW_fits _ hw, ?_⟩
        intro ⟨h23, b', hb', hl⟩
        injection hb' with hb'; subst hb'
        exact hc ⟨h23, hl⟩
    · have hnb : ∀ b, w ≠ .bytes b := fun b h => hb ⟨b, h⟩
      rw [ofValue_tag t w hnb]
      obtain ⟨h1, h2, h3⟩ := ofValue_spec w hw
      refine ⟨?_, by simp only [E.value, h2], by simp only [E.bytes, enc, headW_minW, h3]⟩
      simp only [E.wf]
      exact ⟨minW_fits _ ht, h1, by rw [h2]; intro ⟨_, b, hb', _⟩; exact hnb b hb'⟩
  | array xs =>
    simp only [Normal] at hn
    obtain ⟨h1, h2, h3⟩ := ofValueL_spec xs hn.2
    refine ⟨?_, by simp only [ofValue, E.value, h2], by simp only [ofValue, E.bytes, enc, ofValueL_length, headW_minW, h3]⟩
    simp only [ofValue, E.wf]
    exact ⟨by intro w' hw'; injection hw' with hw'; subst hw'; rw [ofValueL_length]; exact minW_fits _ hn.1, h1⟩
  | map kvs =>
    simp only [Normal] at hn
    obtain ⟨h1, h2, h3⟩ := ofValueP_spec kvs hn.2
    refine ⟨?_, by simp only [ofValue, E.value, h2], by simp only [ofValue, E.bytes, enc, ofValueP_length, headW_minW, h3]⟩
    simp only [ofValue, E.wf]
    exact ⟨by intro w' hw'; injection hw' with hw'; subst hw'; rw [ofValueP_length]; exact minW_fits _ hn.1, h1⟩
theorem ofValueL_spec (xs : List Value) (hn : NormalL xs) : E.wfL (ofValueL xs) ∧ E.valueL (ofValueL xs) = xs ∧ E.bytesL (ofValueL xs) = encList xs := by
  cases xs with
  | nil => exact ⟨trivial, rfl, rfl⟩
  | cons x xs =>
    simp only [NormalL] at hn
    obtain ⟨a1, a2, a3⟩ := ofValue_spec x hn.1
    obtain ⟨b1, b2, b3⟩ := ofValueL_spec xs hn.2
    exact ⟨⟨a1, b1⟩, by simp only [ofValueL, E.valueL, a2, b2], by simp only [ofValueL, E.bytesL, encList, a3, b3]⟩
theorem ofValueP_spec (kvs : List (Value × Value)) (hn : NormalP kvs) :
    E.wfP (ofValueP kvs) ∧ E.valueP (ofValueP kvs) = kvs ∧ E.bytesP (ofValueP kvs) = encPairs kvs := by
  cases kvs with
  | nil => exact ⟨trivial, rfl, rfl⟩
  | cons kv kvs =>
    obtain ⟨k, v⟩ := kv
    simp only [NormalP] at hn
    obtain ⟨a1, a2, a3⟩ := ofValue_spec k hn.1
    obtain ⟨c1, c2, c3⟩ := ofValue_spec v hn.2.1
    obtain ⟨b1, b2, b3⟩ := ofValueP_spec kvs hn.2.2
    exact ⟨⟨a1, c1, b1⟩, by simp only [ofValueP, E.valueP, a2, c2, b2], by simp only [ofValueP, E.bytesP, encPairs, a3, c3, b3]⟩
end

theorem enc_encodes (v : Value) (hn : Normal v) : Encodes v (enc v) := by
  obtain ⟨h1, h2, h3⟩ := ofValue_spec v hn
  exact ⟨ofValue v, h1, h2, h3⟩

theorem readToValue_as_deterministic (v : Value) (b : Bytes) (h : Encodes v b) (hn : Normal v) (hd : depthOf v ≤ recursionLimit) :
    readToValue b = readToValue (enc v) :=
  readToValue_encoding_independent v b (enc v) h (enc_encodes v hn) hd

end Coset
