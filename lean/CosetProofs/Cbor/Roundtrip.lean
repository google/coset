/-
  L1: parsing the serializer's output gives back the value (and the untouched rest), for every `Normal` value within the parser's
  recursion budget.  The serializer's output is one of the well-formed encodings (`ofValue_spec`), so this is L2 at `ofValue v`.
-/
import CosetProofs.Cbor.Encodings
namespace Coset.Cbor
open Coset Coset.Spec

mutual
theorem efuel_ofValue (v : Value) : efuel (ofValue v) ≤ nsize v := by
  cases v with
  | tag t w =>
    by_cases hb : ∃ b, w = .bytes b
    · obtain ⟨b, rfl⟩ := hb
      simp only [ofValue]; split <;> (try split) <;> simp [efuel, nsize]
    · rw [ofValue_tag t w (fun b h => hb ⟨b, h⟩)]
      have := efuel_ofValue w
      simp only [efuel, nsize]; omega
  | array xs => have := efuelL_ofValueL xs; simp only [ofValue, efuel, nsize]; omega
  | map kvs => have := efuelP_ofValueP kvs; simp only [ofValue, efuel, nsize]; omega
  | int n => simp only [ofValue]; split <;> simp [efuel, nsize]
  | float b => simp only [ofValue]; split <;> (try split) <;> simp [efuel, nsize]
  | _ => simp [ofValue, efuel, nsize]
theorem efuelL_ofValueL (xs : List Value) : efuelL (ofValueL xs) ≤ nsizeL xs := by
  cases xs with
  | nil => simp [ofValueL, efuelL, nsizeL]
  | cons x xs => have := efuel_ofValue x; have := efuelL_ofValueL xs; simp only [ofValueL, efuelL, nsizeL]; omega
theorem efuelP_ofValueP (kvs : List (Value × Value)) : efuelP (ofValueP kvs) ≤ nsizeP kvs := by
  cases kvs with
  | nil => simp [ofValueP, efuelP, nsizeP]
  | cons kv kvs =>
    obtain ⟨k, v⟩ := kv
    have := efuel_ofValue k; have := efuel_ofValue v; have := efuelP_ofValueP kvs
    simp only [ofValueP, efuelP, nsizeP]; omega
end

theorem parse_enc (v : Value) (fuel d : Nat) (s : Bytes) (hn : Normal v) (hd : depthOf v ≤ d) (hf : nsize v ≤ fuel) :
    parse fuel d (enc v ++ s) = .ok (v, s) := by
  obtain ⟨hw, hv, hb⟩ := ofValue_spec v hn
  have := parse_encoding (ofValue v) fuel d s hw (by rw [hv]; exact hd) (Nat.le_trans (efuel_ofValue v) hf)
  rwa [hv, hb] at this

theorem encFloat_length_pos (b : Nat) : 0 < (encFloat b).length := by
  unfold encFloat; simp only []; split <;> (try split) <;> simp

mutual
/-- the fuel `parse_enc` asks for is within what the entry point supplies (`fuelFor`). -/
theorem nsize_le (v : Value) : nsize v + 1 ≤ 3 * (enc v).length := by
  cases v with
  | int n =>
    have := encHead_length_pos 0 n.toNat; have := encHead_length_pos 1 (-1 - n).toNat
    simp only [nsize, enc]; split <;> omega
  | bytes b => have := encHead_length_pos 2 b.length; simp only [nsize, enc, List.length_append]; omega
  | text b => have := encHead_length_pos 3 b.length; simp only [nsize, enc, List.length_append]; omega
  | float f => have := encFloat_length_pos f.toNat; simp only [nsize, enc]; omega
  | bool b => simp [nsize, enc]
  | null => simp [nsize, enc]
  | tag t w => have := encHead_length_pos 6 t; have := nsize_le w; simp only [nsize, enc, List.length_append]; omega
  | array xs => have := encHead_length_pos 4 xs.length; have := nsizeL_le xs; simp only [nsize, enc, List.length_append]; omega
  | map kvs => have := encHead_length_pos 5 kvs.length; have := nsizeP_le kvs; simp only [nsize, enc, List.length_append]; omega
theorem nsizeL_le (xs : List Value) : nsizeL xs ≤ 3 * (encList xs).length + 1 := by
  cases xs with
  | nil => simp [nsizeL, encList]
  | cons x xs => have := nsize_le x; have := nsizeL_le xs; simp only [nsizeL, encList, List.length_append]; omega
theorem nsizeP_le (kvs : List (Value × Value)) : nsizeP kvs ≤ 3 * (encPairs kvs).length + 1 := by
  cases kvs with
  | nil => simp [nsizeP, encPairs]
  | cons kv kvs =>
    obtain ⟨k, v⟩ := kv
    have := nsize_le k; have := nsize_le v; have := nsizeP_le kvs
    simp only [nsizeP, encPairs, List.length_append]; omega
end

theorem enc_ne_nil (v : Value) : enc v ≠ [] := fun h => by
  have := nsize_le v
  simp [h] at this

/-- L1 at the API. -/
theorem readToValue_enc (v : Value) (hn : Normal v) (hd : depthOf v ≤ recursionLimit) :
    readToValue (enc v) = .ok v :=
  readToValue_of_encodes v (enc v) (enc_encodes v hn) hd

end Coset.Cbor
