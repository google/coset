/-
  The fuel argument of the parser model is there for Lean's termination checker only.  Once it exceeds `2·|input| + 2` the result —
  value, error, everything — is never "out of fuel" and is the same at any larger fuel; the entry point supplies more than that.
-/
import CosetProofs.Cbor.Weight
namespace Coset.Cbor
open Coset

/-- `x` is a definite answer (not "out of fuel") and `y` is the same answer: what one more unit of fuel keeps. -/
def Final {α : Type} (x y : PR α) : Prop := x ≠ .oof ∧ x = y

namespace Final
variable {α β : Type}

theorem ok {a : α} : Final (.ok a) (.ok a) := ⟨nofun, rfl⟩
theorem err : Final (.err : PR α) .err := ⟨nofun, rfl⟩

theorem bind {x x' : PR α} {g g' : α → PR β} (hx : Final x x') (hg : ∀ a, x = .ok a → Final (g a) (g' a)) :
    Final (x.bind g) (x'.bind g') := by
  obtain ⟨hne, rfl⟩ := hx
  cases x with
  | ok a => exact hg a rfl
  | err => exact err
  | oof => exact absurd rfl hne

theorem ite {c : Prop} [Decidable c] {a a' b b' : PR α} (ha : c → Final a a') (hb : ¬ c → Final b b') :
    Final (if c then a else b) (if c then a' else b') := by
  by_cases h : c
  · rw [if_pos h, if_pos h]; exact ha h
  · rw [if_neg h, if_neg h]; exact hb h

end Final

/- From here on a goal `Final (f fuel …) (f (fuel + 1) …)` is met by a term that follows the definition of `f`: a nested call is final by
   the induction hypothesis (its input is shorter by the head, or by the items already read: `parse_weight`).  The model spells
   `PR.bind` as a `match`, which the elaborator is told to unfold (`smartUnfolding false`) so that `Final.bind` applies. -/
section
set_option smartUnfolding false

theorem chunks_final : ∀ fuel t k bs acc, bs.length + 1 ≤ fuel → Final (chunks fuel t k bs acc) (chunks (fuel + 1) t k bs acc) := by
  intro fuel
  induction fuel with
  | zero => intros; omega
  | succ fuel ih =>
    intro t k bs acc hf
    rw [chunks, chunks]
    cases hp : pull bs with
    | none => exact .err
    | some p =>
      obtain ⟨hd, rest⟩ := p
      have hl := pull_length hp
      have step : ∀ k' n acc', Final (chunks fuel t k' (rest.drop n) acc') (chunks (fuel + 1) t k' (rest.drop n) acc') :=
        fun k' n acc' => ih t k' _ acc' (by simp only [List.length_drop]; omega)
      cases hd with
      | brk => exact .ite (fun _ => .ok) fun _ => step _ 0 _
      | bytes len =>
        refine .ite (fun _ => .err) fun _ => ?_
        cases len with
        | none => exact step _ 0 _
        | some n => exact .ite (fun _ => .err) fun _ => step _ n _
      | text len =>
        refine .ite (fun _ => .err) fun _ => ?_
        cases len with
        | none => exact step _ 0 _
        | some n => exact .ite (fun _ => .err) fun _ => .ite (fun _ => .err) fun _ => step _ n _
      | _ => exact .err

theorem parse_final_aux : ∀ fuel,
    (∀ d bs, 2 * bs.length + 2 ≤ fuel → Final (parse fuel d bs) (parse (fuel + 1) d bs)) ∧
    (∀ d n bs, 2 * bs.length + 3 ≤ fuel → Final (items (fun f => parse f d) fuel n bs) (items (fun f => parse f d) (fuel + 1) n bs)) ∧
    (∀ d n bs, 2 * bs.length + 3 ≤ fuel →
      Final (items (pair fun f => parse f d) fuel n bs) (items (pair fun f => parse f d) (fuel + 1) n bs)) := by
  intro fuel
  induction fuel with
  | zero => exact ⟨by intros; omega, by intros; omega, by intros; omega⟩
  | succ fuel ih =>
    obtain ⟨ihv, ihl, ihp⟩ := ih
    have shorter : ∀ {d bs v r}, parse fuel d bs = .ok (v, r) → r.length < bs.length := fun {d bs v r} h => by
      have := parse_weight fuel d bs v r h; have := size_pos v; omega
    refine ⟨?_, ?_, ?_⟩
    · intro d bs hf
      rw [parse, parse]
      cases hp : pull bs with
      | none => exact .err
      | some p =>
        obtain ⟨hd, rest⟩ := p
        have hl := pull_length hp
        have hr : 2 * rest.length + 3 ≤ fuel := by omega
        cases hd with
        | pos n | neg n | float n => exact .ok
        | brk => exact .err
        | simple n => exact .ite (fun _ => .ok) fun _ => .ite (fun _ => .ok) fun _ => .ite (fun _ => .ok) fun _ => .err
        | bytes len =>
          cases len with
          | some n => exact .ite (fun _ => .err) fun _ => .ok
          | none => exact (chunks_final fuel false 1 rest [] (by omega)).bind fun _ _ => .ok
        | text len =>
          cases len with
          | some n => exact .ite (fun _ => .err) fun _ => .ite (fun _ => .err) fun _ => .ok
          | none => exact (chunks_final fuel true 1 rest [] (by omega)).bind fun _ _ => .ok
        | array len =>
          cases len <;> simp only [parseN_eq, parseIndef_eq] <;> exact .ite (fun _ => .err) fun _ => (ihl _ _ rest hr).bind fun _ _ => .ok
        | map len =>
          cases len <;> simp only [parsePairsN_eq, parsePairsIndef_eq] <;>
            exact .ite (fun _ => .err) fun _ => (ihp _ _ rest hr).bind fun _ _ => .ok
        | tag t =>
          dsimp only
          cases (if t = 2 ∨ t = 3 then smallBytesPeek rest else none) with
          | some q =>
            refine .ite (fun _ => .err) fun _ => .ite (fun _ => .ok) fun _ => ?_
            cases fromNegU128 (beVal (q.2.take q.1)) with
            | some v => exact .ok
            | none => exact .err
          | none => exact .ite (fun _ => .err) fun _ => (ihv _ rest (Nat.le_of_succ_le hr)).bind fun _ _ => .ok
    · intro d n bs hf
      rw [items, items]
      cases listEnd n bs with
      | some r => exact .ok
      | none =>
        exact (ihv d bs (by omega)).bind fun (v, r1) hv => (ihl d _ r1 (by have := shorter hv; omega)).bind fun _ _ => .ok
    · intro d n bs hf
      rw [items, items]
      cases listEnd n bs with
      | some r => exact .ok
      | none =>
        refine Final.bind ((ihv d bs (by omega)).bind fun (k, r1) hk => (ihv d r1 (by have := shorter hk; omega)).bind fun _ _ => .ok) ?_
        intro (kv, r2) hkv
        obtain ⟨r1, hk, hv⟩ := pair_ok_iff.mp hkv
        exact (ihp d _ r2 (by have := shorter hk; have := shorter hv; omega)).bind fun _ _ => .ok

end

theorem parse_no_oof (fuel d : Nat) (bs : Bytes) (hf : 2 * bs.length + 2 ≤ fuel) : parse fuel d bs ≠ .oof :=
  ((parse_final_aux fuel).1 d bs hf).1

theorem fromReader_no_oof (bs : Bytes) : fromReader bs ≠ .oof :=
  parse_no_oof _ _ bs (by unfold fuelFor; omega)

theorem parse_fuel_irrelevant (d : Nat) (bs : Bytes) : ∀ (f f' : Nat), 2 * bs.length + 2 ≤ f → f ≤ f' → parse f d bs = parse f' d bs := by
  intro f f' hf hle
  obtain ⟨k, rfl⟩ : ∃ k, f' = f + k := ⟨f' - f, by omega⟩
  clear hle
  induction k with
  | zero => rfl
  | succ k ih => rw [ih]; exact ((parse_final_aux (f + k)).1 d bs (by omega)).2

theorem fromReader_eq_parse (bs : Bytes) (f : Nat) (hf : 2 * bs.length + 2 ≤ f) : fromReader bs = parse f recursionLimit bs := by
  unfold fromReader
  by_cases h : fuelFor bs ≤ f
  · exact parse_fuel_irrelevant _ bs _ _ (by unfold fuelFor; omega) h
  · exact (parse_fuel_irrelevant _ bs _ _ hf (by omega)).symm

end Coset.Cbor
