/-
  L0: heads.  `pull` reads a head exactly from an initial byte `m * 32 + minor` followed by the argument bytes that go with `minor`
  (`pull_eq_some`); everything else said about it follows from that.  `encHead` writes the least such form.
-/
import CosetSpec.Encodings
namespace Coset.Cbor

theorem beVal_append_single (xs : Bytes) (b : UInt8) : beVal (xs ++ [b]) = beVal xs * 256 + b.toNat := by
  simp [beVal, List.foldl_append]

theorem beVal_beN (k n : Nat) (h : n < 256 ^ k) : beVal (beN k n) = n := by
  induction k generalizing n with
  | zero =>
    obtain rfl : n = 0 := by simpa using h
    rfl
  | succ k ih =>
    rw [beN, beVal_append_single, ih (n / 256) (by rw [Nat.div_lt_iff_lt_mul (by decide)]; rw [Nat.pow_succ] at h; exact h)]
    simp only [UInt8.toNat_ofNat']
    omega

@[simp] theorem beN_length (k n : Nat) : (beN k n).length = k := by
  induction k generalizing n with
  | zero => simp [beN]
  | succ k ih => simp [beN, ih]

theorem foldl_be_lt (bs : Bytes) : ∀ a : Nat, bs.foldl (fun acc b => acc * 256 + b.toNat) a < (a + 1) * 256 ^ bs.length := by
  induction bs with
  | nil => intro a; simp
  | cons b bs ih =>
    intro a
    simp only [List.foldl_cons, List.length_cons]
    have h1 := ih (a * 256 + b.toNat)
    have hb := b.toNat_lt
    have h2 : (a * 256 + b.toNat + 1) * 256 ^ bs.length ≤ ((a + 1) * 256) * 256 ^ bs.length :=
      Nat.mul_le_mul_right _ (by omega)
    rw [Nat.pow_succ, Nat.mul_comm (256 ^ bs.length) 256, ← Nat.mul_assoc]
    omega

theorem beVal_lt (bs : Bytes) : beVal bs < 256 ^ bs.length := by
  have := foldl_be_lt bs 0
  simpa [beVal] using this

theorem beN_beVal : ∀ (n : Nat) (bs : Bytes), bs.length = n → beN n (beVal bs) = bs := by
  intro n
  induction n with
  | zero => intro bs h; have : bs = [] := List.eq_nil_of_length_eq_zero h; subst this; rfl
  | succ n ih =>
    intro bs h
    have hne : bs ≠ [] := by intro h0; subst h0; simp at h
    have hsplit := List.dropLast_concat_getLast hne
    rw [← hsplit, beVal_append_single]
    have hl : bs.dropLast.length = n := by simp [h]
    have hb := (bs.getLast hne).toNat_lt
    simp only [beN]
    have h1 : (beVal bs.dropLast * 256 + (bs.getLast hne).toNat) / 256 = beVal bs.dropLast := by omega
    have h2 : UInt8.ofNat (beVal bs.dropLast * 256 + (bs.getLast hne).toNat) = bs.getLast hne := by
      apply UInt8.toNat_inj.mp
      simp only [UInt8.toNat_ofNat']; omega
    rw [h1, h2, ih _ hl]

/-- `minBytesF` writes `beN` at the least length that holds `n`. -/
theorem minBytesF_eq_beN (f : Nat) : ∀ n k, n < 256 ^ k → k ≤ f → ∃ j, j ≤ k ∧ n < 256 ^ j ∧ minBytesF f n = beN j n := by
  induction f with
  | zero => intro n k h hk; cases Nat.le_zero.mp hk; exact ⟨0, Nat.le_refl 0, h, rfl⟩
  | succ f ih =>
    intro n k h hk
    by_cases hn : n = 0
    · exact ⟨0, Nat.zero_le k, by omega, by rw [minBytesF, if_pos hn]; rfl⟩
    · cases k with
      | zero => rw [Nat.pow_zero] at h; omega
      | succ k =>
        rw [Nat.pow_succ, ← Nat.div_lt_iff_lt_mul (by decide)] at h
        obtain ⟨j, hj, hlt, he⟩ := ih (n / 256) k h (by omega)
        refine ⟨j + 1, by omega, ?_, by rw [minBytesF, if_neg hn, he]; rfl⟩
        rw [Nat.pow_succ, ← Nat.div_lt_iff_lt_mul (by decide)]; exact hlt

theorem minBytes_spec {n k : Nat} (h : n < 256 ^ k) (hk : k ≤ 16) : (minBytes n).length ≤ k ∧ beVal (minBytes n) = n := by
  obtain ⟨j, hj, hlt, he⟩ := minBytesF_eq_beN 16 n k h hk
  rw [minBytes, he, beN_length, beVal_beN j n hlt]; exact ⟨hj, rfl⟩

theorem minBytes_beVal_length (bs : Bytes) (h : bs.length ≤ 16) : (minBytes (beVal bs)).length ≤ bs.length :=
  (minBytes_spec (beVal_lt bs) h).1

theorem beVal_minBytes (n : Nat) (h : n < 2 ^ 128) : beVal (minBytes n) = n :=
  (minBytes_spec (k := 16) h (Nat.le_refl 16)).2

/-- `p` are the argument bytes that go with `minor`, and `a` is the argument (value, width) they denote: the minor itself below 24,
    `2 ^ i` bytes behind the minor `24 + i`, nothing for an indefinite length. -/
inductive ArgSpec : Nat → Bytes → Option (Nat × Nat) → Prop
  | small {n : Nat} (h : n < 24) : ArgSpec n [] (some (n, 0))
  | wide {i : Nat} (hi : i < 4) {p : Bytes} (hl : p.length = 2 ^ i) : ArgSpec (24 + i) p (some (beVal p, 2 ^ i))
  | indef : ArgSpec 31 [] none

theorem ArgSpec.beN {i n : Nat} (hi : i < 4) (hn : n < 256 ^ 2 ^ i) : ArgSpec (24 + i) (beN (2 ^ i) n) (some (n, 2 ^ i)) := by
  have := ArgSpec.wide hi (beN_length (2 ^ i) n)
  rwa [beVal_beN _ n hn] at this

theorem ArgSpec.arg_lt {minor : Nat} {p : Bytes} {n w : Nat} (h : ArgSpec minor p (some (n, w))) : n < 2 ^ 64 := by
  cases h with
  | small h => omega
  | @wide i hi _ hl =>
    have h1 := beVal_lt p
    have h2 : (256 : Nat) ^ p.length ≤ 256 ^ 2 ^ 3 := hl ▸ Nat.pow_le_pow_right (by decide) (Nat.pow_le_pow_right (by decide) (Nat.le_of_lt_succ hi))
    exact Nat.lt_of_lt_of_le h1 h2

theorem ArgSpec.minor_lt {minor : Nat} {p : Bytes} {a : Option (Nat × Nat)} (h : ArgSpec minor p a) : minor < 32 := by
  cases h <;> omega

theorem pullArg_eq_some {minor : Nat} {r0 r : Bytes} {a : Option (Nat × Nat)} :
    pullArg minor r0 = some (a, r) ↔ ∃ p, r0 = p ++ r ∧ ArgSpec minor p a := by
  constructor
  · intro h
    have wide : ∀ i, i < 4 → minor = 24 + i →
        (if r0.length < 2 ^ i then none else some (some (beVal (r0.take (2 ^ i)), 2 ^ i), r0.drop (2 ^ i))) = some (a, r) →
        ∃ p, r0 = p ++ r ∧ ArgSpec minor p a := by
      intro i hi hm he
      by_cases hl : r0.length < 2 ^ i
      · rw [if_pos hl] at he; cases he
      · rw [if_neg hl] at he; cases he
        exact ⟨_, (List.take_append_drop _ r0).symm, hm ▸ .wide hi (by simp only [List.length_take]; omega)⟩
    -- (`split at h` on this chain costs forty times what `by_cases` + `rw [if_pos/if_neg]` does)
    unfold pullArg at h
    by_cases h0 : minor < 24
    · rw [if_pos h0] at h; cases h; exact ⟨[], rfl, .small h0⟩
    rw [if_neg h0] at h
    by_cases h1 : minor = 24
    · rw [if_pos h1] at h; exact wide 0 (by decide) h1 h
    rw [if_neg h1] at h
    by_cases h2 : minor = 25
    · rw [if_pos h2] at h; exact wide 1 (by decide) h2 h
    rw [if_neg h2] at h
    by_cases h3 : minor = 26
    · rw [if_pos h3] at h; exact wide 2 (by decide) h3 h
    rw [if_neg h3] at h
    by_cases h4 : minor = 27
    · rw [if_pos h4] at h; exact wide 3 (by decide) h4 h
    rw [if_neg h4] at h
    by_cases h5 : minor = 31
    · rw [if_pos h5] at h; cases h; exact ⟨[], rfl, h5 ▸ .indef⟩
    · rw [if_neg h5] at h; cases h
  · rintro ⟨p, rfl, h⟩
    cases h with
    | small h => simp [pullArg, h]
    | indef => simp [pullArg]
    | @wide i hi _ hl =>
      have ht : (p ++ r).take (2 ^ i) = p := List.take_left' hl
      have hd : (p ++ r).drop (2 ^ i) = r := List.drop_left' hl
      have hn : ¬ (p ++ r).length < 2 ^ i := by simp [hl]
      obtain rfl | rfl | rfl | rfl : i = 0 ∨ i = 1 ∨ i = 2 ∨ i = 3 := by omega
      all_goals simp only [pullArg]; simp only [ht, hd, hn]; simp

/-- major type 7 with an argument of width `w`: a simple value or a float. -/
def hd7 (n w : Nat) : Hd :=
  if w = 0 ∨ w = 1 then .simple n else if w = 2 then .float (Float.f16to64 n) else if w = 4 then .float (Float.f32to64 n) else .float n

theorem hd7_ne (n w k : Nat) : hd7 n w ≠ .pos k ∧ hd7 n w ≠ .neg k ∧ hd7 n w ≠ .tag k := by
  unfold hd7
  repeat' split
  all_goals simp

/-- the head `pull` makes of a major type and an argument (the inner `match` of `pull`, without the rest). -/
def hdSel (major : Nat) (arg : Option (Nat × Nat)) : Option Hd :=
  match major, arg with
  | 0, some (n, _) => some (.pos n)
  | 1, some (n, _) => some (.neg n)
  | 6, some (n, _) => some (.tag n)
  | 0, none => none
  | 1, none => none
  | 6, none => none
  | 2, a => some (.bytes (a.map (·.1)))
  | 3, a => some (.text (a.map (·.1)))
  | 4, a => some (.array (a.map (·.1)))
  | 5, a => some (.map (a.map (·.1)))
  | _, none => some .brk
  | _, some (n, w) => some (hd7 n w)

theorem hdSel_arg {mj : Nat} {a : Option (Nat × Nat)} {hd : Hd} (h : hdSel mj a = some hd) (n : Nat)
    (hn : hd = .pos n ∨ hd = .neg n ∨ hd = .tag n) : ∃ w, a = some (n, w) := by
  -- the first three arms of `hdSel` make `pos`, `neg`, `tag` of the argument's value, the others none of the three
  revert h
  fun_cases hdSel mj a <;> intro h <;> cases h
  case case1 k w | case2 k w | case3 k w => exact ⟨w, by simpa using hn⟩
  all_goals simp [hd7_ne] at hn

theorem hdSel_tag {mj : Nat} {a : Option (Nat × Nat)} {n : Nat} (h : hdSel mj a = some (.tag n)) : mj = 6 := by
  revert h
  fun_cases hdSel mj a <;> simp [hd7_ne]

/-- the head a given major type (other than 7) and argument decode to. -/
def hdOf (m n : Nat) : Hd :=
  match m with
  | 0 => .pos n | 1 => .neg n | 2 => .bytes (some n) | 3 => .text (some n)
  | 4 => .array (some n) | 5 => .map (some n) | _ => .tag n

theorem hdSel_hdOf {m : Nat} (hm : m < 7) (n w : Nat) : hdSel m (some (n, w)) = some (hdOf m n) := by
  have : m = 0 ∨ m = 1 ∨ m = 2 ∨ m = 3 ∨ m = 4 ∨ m = 5 ∨ m = 6 := by omega
  rcases this with h | h | h | h | h | h | h <;> subst h <;> rfl

theorem pull_cons (b : UInt8) (r0 : Bytes) :
    pull (b :: r0) = (pullArg (b.toNat % 32) r0).bind fun p => (hdSel (b.toNat / 32) p.1).map (·, p.2) := by
  simp only [pull]
  cases pullArg (b.toNat % 32) r0 with
  | none => rfl
  | some p =>
    obtain ⟨a, r⟩ := p
    -- the two `match`es agree arm by arm, whatever the major type is
    generalize b.toNat / 32 = mj
    rcases mj with _ | _ | _ | _ | _ | _ | _ | mj <;> rcases a with _ | ⟨n, w⟩ <;> try rfl
    show _ = some (hd7 n w, r)
    simp only [hd7, apply_ite (fun h : Hd => some (h, r))]

theorem pull_eq_some {bs r : Bytes} {hd : Hd} :
    pull bs = some (hd, r) ↔ ∃ m minor p a, m < 8 ∧ bs = UInt8.ofNat (m * 32 + minor) :: (p ++ r) ∧ ArgSpec minor p a ∧ hdSel m a = some hd := by
  cases bs with
  | nil => simp [pull]
  | cons b r0 =>
    simp only [pull_cons, Option.bind_eq_some_iff, Option.map_eq_some_iff, Prod.mk.injEq, Prod.exists, pullArg_eq_some]
    constructor
    · rintro ⟨a, _, ⟨p, rfl, hA⟩, _, hs, rfl, rfl⟩
      have := b.toNat_lt
      refine ⟨b.toNat / 32, b.toNat % 32, p, a, by omega, ?_, hA, hs⟩
      congr 1; apply UInt8.toNat_inj.mp; simp only [UInt8.toNat_ofNat']; omega
    · rintro ⟨m, minor, p, a, hm, e, hA, hs⟩
      cases e
      have hmi := hA.minor_lt
      have hb : (UInt8.ofNat (m * 32 + minor)).toNat = m * 32 + minor := by simp only [UInt8.toNat_ofNat']; omega
      rw [hb, show (m * 32 + minor) % 32 = minor by omega, show (m * 32 + minor) / 32 = m by omega]
      exact ⟨a, r, ⟨p, rfl, hA⟩, hd, hs, rfl, rfl⟩

theorem pull_head {m minor : Nat} {p : Bytes} {a : Option (Nat × Nat)} {hd : Hd} (hm : m < 8) (hA : ArgSpec minor p a)
    (hs : hdSel m a = some hd) (rest : Bytes) :
    pull (UInt8.ofNat (m * 32 + minor) :: (p ++ rest)) = some (hd, rest) :=
  pull_eq_some.mpr ⟨m, minor, p, a, hm, rfl, hA, hs⟩

theorem pull_headW (m : Nat) (w : Spec.W) (n : Nat) (hm : m < 7) (hf : w.fits n) (rest : Bytes) :
    pull (Spec.headW m w n ++ rest) = some (hdOf m n, rest) := by
  have h8 : m < 8 := by omega
  cases w with
  | w0 => exact pull_head h8 (.small hf) (hdSel_hdOf hm n 0) rest
  | w1 => exact pull_head h8 (.beN (i := 0) (by decide) hf) (hdSel_hdOf hm n 1) rest
  | w2 => exact pull_head h8 (.beN (i := 1) (by decide) hf) (hdSel_hdOf hm n 2) rest
  | w4 => exact pull_head h8 (.beN (i := 2) (by decide) hf) (hdSel_hdOf hm n 4) rest
  | w8 => exact pull_head h8 (.beN (i := 3) (by decide) hf) (hdSel_hdOf hm n 8) rest

theorem headW_length_pos (m : Nat) (w : Spec.W) (n : Nat) : 0 < (Spec.headW m w n).length := by cases w <;> simp [Spec.headW]

theorem pull_length {bs rest : Bytes} {hd : Hd} (h : pull bs = some (hd, rest)) : rest.length + 1 ≤ bs.length := by
  obtain ⟨m, minor, p, a, -, rfl, -, -⟩ := pull_eq_some.mp h
  simp only [List.length_cons, List.length_append]; omega

theorem pull_append {bs r : Bytes} {hd : Hd} (s : Bytes) (h : pull bs = some (hd, r)) : pull (bs ++ s) = some (hd, r ++ s) := by
  obtain ⟨m, minor, p, a, hm, rfl, hA, hs⟩ := pull_eq_some.mp h
  exact pull_eq_some.mpr ⟨m, minor, p, a, hm, by simp, hA, hs⟩

theorem pull_arg_lt {bs rest : Bytes} {hd : Hd} (h : pull bs = some (hd, rest)) (n : Nat)
    (hn : hd = .pos n ∨ hd = .neg n ∨ hd = .tag n) : n < 2 ^ 64 := by
  obtain ⟨m, minor, p, a, -, -, hA, hs⟩ := pull_eq_some.mp h
  obtain ⟨w, rfl⟩ := hdSel_arg hs n hn
  exact hA.arg_lt

theorem smallBytesPeek_eq_some {rest rest2 : Bytes} {len : Nat} :
    smallBytesPeek rest = some (len, rest2) ↔ pull rest = some (.bytes (some len), rest2) ∧ len ≤ 16 := by
  unfold smallBytesPeek
  rcases pull rest with _ | ⟨hd, r⟩
  · simp
  cases hd with
  | bytes l =>
    cases l with
    | none => simp
    | some n =>
      by_cases h : n ≤ 16
      · simp only [if_pos h]
        exact ⟨fun e => by cases e; exact ⟨rfl, h⟩, fun ⟨e, _⟩ => by cases e; rfl⟩
      · simp only [if_neg h]
        exact ⟨nofun, fun ⟨e, hl⟩ => by cases e; exact absurd hl h⟩
  | _ => simp

theorem pull_break (s : Bytes) : pull (0xff :: s) = some (.brk, s) := by rfl

/- The deterministic head.  The last clause of `encHead_wide` says that `i` is least: `2 ^ (i - 1)` bytes would not hold the argument. -/

theorem encHead_small {n : Nat} (mj : Nat) (h : n < 24) : encHead mj n = [UInt8.ofNat (mj * 32 + n)] := by
  rw [encHead, if_pos h]

theorem encHead_wide {n : Nat} (mj : Nat) (h : 24 ≤ n) : ∃ i, encHead mj n = UInt8.ofNat (mj * 32 + (24 + i)) :: beN (2 ^ i) n ∧ i < 4 ∧
    (n < 2 ^ 64 → n < 256 ^ 2 ^ i) ∧ (i = 0 ∨ 256 ^ 2 ^ (i - 1) ≤ n) := by
  rw [encHead, if_neg (Nat.not_lt.mpr h)]
  by_cases h1 : n < 256
  · exact ⟨0, by rw [if_pos h1], by decide, fun _ => h1, .inl rfl⟩
  rw [if_neg h1]
  by_cases h2 : n < 65536
  · exact ⟨1, by rw [if_pos h2], by decide, fun _ => h2, .inr (Nat.not_lt.mp h1)⟩
  rw [if_neg h2]
  by_cases h3 : n < 4294967296
  · exact ⟨2, by rw [if_pos h3], by decide, fun _ => h3, .inr (Nat.not_lt.mp h2)⟩
  rw [if_neg h3]
  exact ⟨3, rfl, by decide, fun h => h, .inr (Nat.not_lt.mp h3)⟩

theorem encHead_initial (mj n : Nat) : ∃ a t, encHead mj n = UInt8.ofNat (mj * 32 + a) :: t ∧ a < 32 := by
  by_cases h : n < 24
  · exact ⟨n, [], encHead_small mj h, by omega⟩
  · obtain ⟨i, e, hi, -⟩ := encHead_wide mj (Nat.not_lt.mp h)
    exact ⟨24 + i, _, e, by omega⟩

theorem encHead_length_pos (m n : Nat) : 0 < (encHead m n).length := by
  obtain ⟨a, t, e, -⟩ := encHead_initial m n
  rw [e]; exact Nat.succ_pos _

end Coset.Cbor
