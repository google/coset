/-
  L6: the parser consumes at least one input byte per node and per string byte of what it returns
  (`size v + |rest| ≤ |input|`): nothing is allocated from a declared length, the result is never larger than the input.
-/
import CosetProofs.Cbor.ParseInv
import CosetModel.Utf8
namespace Coset.Utf8

/-- Induction along `valid`'s own recursion: `a ++ b` goes through the arm that `a` goes through. -/
theorem valid_append (a b : Bytes) (ha : valid a = true) (hb : valid b = true) : valid (a ++ b) = true := by
  fun_induction valid a
  case case1 => exact hb
  -- a one-byte code point
  case case2 h ih => rw [List.cons_append, valid.eq_def]; simp only [if_pos h]; exact ih ha
  -- the arms that reject `a`: there `ha` is `false = true`
  any_goals cases ha
  -- a lead byte with one, two or three continuation bytes: the same checks on them, then the induction hypothesis
  all_goals
    rename_i ih
    simp [valid, *] at ha ⊢
    exact ⟨ha.1, ih ha.2⟩

end Coset.Utf8

namespace Coset.Cbor
open Coset

/-- the `+ 1` is the break byte; the chunks of a text string are checked to be UTF-8 one by one, so their concatenation is UTF-8
    (`valid_append`; L7 needs it, and it comes out of the same induction). -/
theorem chunks_content : ∀ {fuel t k bs acc b r}, chunks fuel t k bs acc = .ok (b, r) →
    ∃ c, b = acc ++ c ∧ c.length + r.length + 1 ≤ bs.length ∧ (t = true → Utf8.valid c = true) := by
  intro fuel
  induction fuel with
  | zero => simp [chunks]
  | succ fuel ih =>
    intro t k bs acc b r h
    obtain ⟨hd, rest, hp, hs⟩ := chunks_ok_step h
    have hl := pull_length hp
    have body : ∀ len, ChunkBody fuel t k len rest acc b r →
        ∃ c, b = acc ++ c ∧ c.length + r.length + 1 ≤ bs.length ∧ (t = true → Utf8.valid c = true) := by
      rintro (_ | n) hb
      · obtain ⟨c, e, hw, hu⟩ := ih hb
        exact ⟨c, e, by omega, hu⟩
      · obtain ⟨c1, r', rfl, -, hu1, hc⟩ := hb
        obtain ⟨c2, e, hw, hu2⟩ := ih hc
        refine ⟨c1 ++ c2, by rw [e, List.append_assoc], ?_, fun ht => Utf8.valid_append _ _ (hu1 ht) (hu2 ht)⟩
        simp only [List.length_append] at hl ⊢; omega
    cases hd with
    | brk =>
      rcases hs with ⟨-, rfl, rfl⟩ | ⟨-, hc⟩
      · exact ⟨[], (List.append_nil _).symm, by simpa using hl, fun _ => rfl⟩
      · obtain ⟨c, e, hw, hu⟩ := ih hc
        exact ⟨c, e, by omega, hu⟩
    | bytes len | text len => exact body len hs.2
    | _ => exact hs.elim

theorem listEnd_length {n : Option Nat} {bs r : Bytes} (h : listEnd n bs = some r) : r.length ≤ bs.length := by
  rcases listEnd_eq_some.mp h with ⟨-, rfl⟩ | ⟨-, rfl⟩ <;> simp

theorem parse_weight_aux : ∀ fuel,
    (∀ {d bs v r}, parse fuel d bs = .ok (v, r) → v.size + r.length ≤ bs.length) ∧
    (∀ {d n bs xs r}, items (fun f => parse f d) fuel n bs = .ok (xs, r) → Value.sizeL xs + r.length ≤ bs.length) ∧
    (∀ {d n bs xs r}, items (pair fun f => parse f d) fuel n bs = .ok (xs, r) → Value.sizeP xs + r.length ≤ bs.length) := by
  intro fuel
  induction fuel with
  | zero => exact ⟨by simp [parse], by simp [items], by simp [items]⟩
  | succ fuel ih =>
    obtain ⟨ihv, ihl, ihp⟩ := ih
    refine ⟨?_, ?_, ?_⟩
    · intro d bs v r h
      obtain ⟨hd, rest, hp, hs⟩ := parse_ok_step h
      have hl := pull_length hp
      have str : ∀ t len b, StrStep fuel t len rest b r → b.length + r.length ≤ rest.length := by
        rintro t (_ | n) b hb
        · obtain ⟨c, rfl, hw, -⟩ := chunks_content hb; exact Nat.le_of_succ_le hw
        · rw [hb.1, List.length_append]; omega
      cases hd with
      | pos n | neg n | float n => obtain ⟨rfl, rfl⟩ := hs; simp only [Value.size]; omega
      | simple n => obtain ⟨h | h | h, rfl⟩ := hs <;> (rw [h.2]; simp only [Value.size]; omega)
      | brk => exact hs.elim
      | bytes len | text len => obtain ⟨b, hb, rfl⟩ := hs; have := str _ _ _ hb; simp only [Value.size]; omega
      | array len => obtain ⟨-, xs, hc, rfl⟩ := hs; have := ihl hc; simp only [Value.size]; omega
      | map len => obtain ⟨-, xs, hc, rfl⟩ := hs; have := ihp hc; simp only [Value.size]; omega
      | tag t =>
        rcases hs with ⟨b, hpk, hv⟩ | ⟨-, -, w, hc, rfl⟩
        · obtain ⟨h23, hp2, h16⟩ := peek_eq_some.mp hpk
          have hl2 := pull_length hp2
          have := minBytes_beVal_length b h16
          simp only [List.length_append] at hl2
          rcases hv.cases h23 with ⟨-, rfl⟩ | ⟨-, rfl⟩ <;> simp only [Value.size] <;> omega
        · have := ihv hc; simp only [Value.size]; omega
    · intro d n bs xs r h
      rcases items_ok_iff.mp h with ⟨he, rfl⟩ | ⟨-, v, r1, ys, hv, hc, rfl⟩
      · have := listEnd_length he; simp only [Value.sizeL]; omega
      · have := ihv hv; have := ihl hc; simp only [Value.sizeL]; omega
    · intro d n bs xs r h
      rcases items_ok_iff.mp h with ⟨he, rfl⟩ | ⟨-, ⟨k, v⟩, r2, ys, hkv, hc, rfl⟩
      · have := listEnd_length he; simp only [Value.sizeP]; omega
      · obtain ⟨r1, hk, hv⟩ := pair_ok_iff.mp hkv
        have := ihv hk; have := ihv hv; have := ihp hc; simp only [Value.sizeP]; omega

theorem parse_weight (fuel d : Nat) (bs : Bytes) (v : Value) (r : Bytes) (h : parse fuel d bs = .ok (v, r)) :
    v.size + r.length ≤ bs.length := (parse_weight_aux fuel).1 h

end Coset.Cbor

namespace Coset
open Cbor

theorem readToValue_size (bs : Bytes) (v : Value) (h : readToValue bs = .ok v) : v.size ≤ bs.length := by
  have := parse_weight _ _ _ _ _ ((readToValue_ok_iff bs v).mp h); omega

theorem size_pos (v : Value) : 0 < v.size := by cases v <;> simp [Value.size]

theorem length_le_sizeL (xs : List Value) : xs.length ≤ Value.sizeL xs := by
  induction xs with
  | nil => simp [Value.sizeL]
  | cons x xs ih => have := size_pos x; simp only [List.length_cons, Value.sizeL]; omega

theorem length_le_sizeP (kvs : List (Value × Value)) : kvs.length ≤ Value.sizeP kvs := by
  induction kvs with
  | nil => simp [Value.sizeP]
  | cons kv kvs ih => obtain ⟨k, v⟩ := kv; have := size_pos k; simp only [List.length_cons, Value.sizeP]; omega

theorem sizeL_mem (x : Value) : ∀ xs : List Value, x ∈ xs → x.size ≤ Value.sizeL xs := by
  intro xs
  induction xs with
  | nil => intro h; cases h
  | cons y ys ih =>
    intro h
    simp only [Value.sizeL]
    rcases List.mem_cons.mp h with rfl | h'
    · omega
    · have := ih h'; omega

theorem sizeP_mem (p : Value × Value) : ∀ m : List (Value × Value), p ∈ m → p.1.size + p.2.size ≤ Value.sizeP m := by
  intro m
  induction m with
  | nil => intro h; cases h
  | cons q qs ih =>
    obtain ⟨k, v⟩ := q
    intro h
    simp only [Value.sizeP]
    rcases List.mem_cons.mp h with rfl | h'
    · show k.size + v.size ≤ _; omega
    · have := ih h'; omega

end Coset
