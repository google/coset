/-
  `Label::cmp` as a total function: on every pair of labels it answers (`Label.cmp_ord`), with a lawful comparison (`Std.TransCmp Label.ord`)
  that says `Equal` only of identical labels (`Std.LawfulEqCmp Label.ord`).  No range hypotheses.
-/
import CosetProofs.Order
namespace Coset
open Std

/-- the order `Label::cmp` computes on integers, written out. -/
def intOrd (i1 i2 : Int) : Ordering :=
  if i1 < 0 then (if i2 < 0 then compare i2 i1 else .gt) else (if i2 < 0 then .lt else compare i1 i2)

theorem signum_cases (i : Int) : i < 0 ∧ signum i = -1 ∨ i = 0 ∧ signum i = 0 ∨ 0 < i ∧ signum i = 1 := by
  unfold signum; omega

/-- The source's table has one arm for each pair of signs, nine in all.  `intOrd` has no class for zero: where an operand is zero and
    the other is not negative, the table's constant is what `compare` gives there. -/
theorem Label.cmp_int (i1 i2 : Int) : Label.cmp (.int i1) (.int i2) = .ok (intOrd i1 i2) := by
  have zero_lt : ∀ {i : Int}, 0 < i → compare 0 i = .lt := Int.compare_eq_lt.mpr
  have gt_zero : ∀ {i : Int}, 0 < i → compare i 0 = .gt := Int.compare_eq_gt.mpr
  simp only [Label.cmp, intOrd]
  rcases signum_cases i1 with ⟨h1, s1⟩ | ⟨h1, s1⟩ | ⟨h1, s1⟩ <;> rcases signum_cases i2 with ⟨h2, s2⟩ | ⟨h2, s2⟩ | ⟨h2, s2⟩ <;>
    simp only [s1, s2] <;> simp [h1, h2, Int.lt_asymm, zero_lt, gt_zero]

/-- non-negative before negative, then by magnitude. -/
theorem intOrd_eq : intOrd = compareLex (compareOn fun i : Int => decide (i < 0)) (compareOn fun i : Int => if i < 0 then -i else i) := by
  funext i j
  simp only [intOrd, compareLex, compareOn]
  by_cases n1 : i < 0 <;> by_cases n2 : j < 0 <;> simp only [n1, n2, if_true, if_false, decide_true, decide_false]
  · exact compareOfLessAndEq_congr (by omega) (by omega)
  · rfl
  · rfl
  · rfl

instance : TransCmp intOrd := intOrd_eq ▸ inferInstance

instance : LawfulEqCmp intOrd where
  eq_of_compare {i j} h := by
    -- `.eq` comes only from the two arms that compare integers of the same sign
    unfold intOrd at h
    by_cases n1 : i < 0 <;> by_cases n2 : j < 0 <;> simp only [n1, n2, if_true, if_false, reduceCtorEq] at h
    · exact (Int.compare_eq_eq.mp h).symm
    · exact Int.compare_eq_eq.mp h

/-- `impl Ord for Label` as a plain function. -/
def Label.ord : Label → Label → Ordering
  | .int i, .int j => intOrd i j
  | .int _, .text _ => .lt
  | .text _, .int _ => .gt
  | .text s, .text t => textCmp s t

/-- `Label::cmp` never reaches its `unreachable!()` arm. -/
theorem Label.cmp_ord (a b : Label) : Label.cmp a b = .ok (Label.ord a b) :=
  match a, b with
  | .int i, .int j => Label.cmp_int i j
  | .int _, .text _ | .text _, .int _ | .text _, .text _ => rfl

instance : TransCmp Label.ord where
  eq_swap {a b} := by
    cases a <;> cases b
    case int.int => exact OrientedCmp.eq_swap (cmp := intOrd)
    case text.text => exact OrientedCmp.eq_swap (cmp := textCmp)
    all_goals rfl
  isLE_trans {a b c} := by
    cases a <;> cases b <;> cases c
    case int.int.int => exact TransCmp.isLE_trans (cmp := intOrd)
    case text.text.text => exact TransCmp.isLE_trans (cmp := textCmp)
    all_goals simp [Label.ord]

instance : LawfulEqCmp Label.ord where
  eq_of_compare {a b} h := by
    cases a <;> cases b <;> simp only [Label.ord, reduceCtorEq] at h
    · rw [LawfulEqCmp.eq_of_compare (cmp := intOrd) h]
    · rw [LawfulEqCmp.eq_of_compare (cmp := textCmp) h]

theorem Label.cmp_ok (a b : Label) : ∃ o, Label.cmp a b = .ok o := ⟨_, Label.cmp_ord a b⟩

theorem Label.cmp_eq_iff (a b : Label) : Label.cmp a b = .ok .eq ↔ a = b := by
  rw [Label.cmp_ord, Res.ok.injEq]; exact LawfulEqCmp.compare_eq_iff_eq

end Coset
