/-
  `keyDispatch` arm by arm, the fold of it field by field (`fold_keyOf`) and the converse (`keyFold_accepts`), as for headers
  (HeaderFields.lean).
-/
import CosetProofs.HeaderLoop
import CosetProofs.FieldFold
import CosetSpec.Key
namespace Coset
open Coset.Spec

theorem keyLabel_values : kKTY = .int 1 ∧ kKID = .int 2 ∧ kALG = .int 3 ∧ kKEY_OPS = .int 4 ∧ kBASE_IV = .int 5 := by decide

/-- `key_ops`: an array whose elements, inserted one by one into the operations held so far, give a non-empty set. -/
def keyOpsOf (v : Value) (old : List RegLabel) : Res (List RegLabel) :=
  match tryAsArray v with
  | .ok ops =>
    match keyOpsLoop ops old with
    | .ok s => if s.isEmpty then .err .unexpectedItem else .ok s
    | r => r
  | .err e => .err e
  | .panic p => .panic p

theorem keyOpsOf_ok (v : Value) (old s : List RegLabel) :
    keyOpsOf v old = .ok s ↔ ∃ a, v = .array a ∧ keyOpsLoop a old = .ok s ∧ s ≠ [] := by
  cases v with
  | array a =>
    cases hl : keyOpsLoop a old with
    | ok s' =>
      cases s' with
      | nil =>
        simp only [keyOpsOf, tryAsArray, hl, List.isEmpty_nil, if_true, reduceCtorEq, false_iff]
        rintro ⟨_, e, hl', hne⟩; cases e; cases hl.symm.trans hl'; exact hne rfl
      | cons x s' =>
        simp only [keyOpsOf, tryAsArray, hl, List.isEmpty_cons, Bool.false_eq_true, if_false, Res.ok.injEq, Value.array.injEq, exists_eq_left']
        exact ⟨fun e => ⟨e, e ▸ List.cons_ne_nil x s'⟩, fun e => e.1⟩
    | _ => simp [keyOpsOf, tryAsArray, hl]
  | _ => simp [keyOpsOf, tryAsArray, typeError]

theorem keyOpsLoop_cons_ok (v : Value) (vs : List Value) (s0 s : List RegLabel) :
    keyOpsLoop (v :: vs) s0 = .ok s ↔ ∃ op s1, RegLabel.fromValue Reg.keyOperation v = .ok op ∧
      setInsert (RegLabel.cmp Reg.keyOperation) s0 op = .ok (some s1) ∧ keyOpsLoop vs s1 = .ok s := by
  rw [keyOpsLoop]
  cases RegLabel.fromValue Reg.keyOperation v with
  | ok op =>
    cases h : setInsert (RegLabel.cmp Reg.keyOperation) s0 op with
    | ok r => cases r <;> simp [h]
    | _ => simp [h]
  | _ => simp

section
variable (v : Value) (k : CoseKey)

theorem keyDispatch_kty : keyDispatch (.int 1) v k = (RegLabel.fromValue Reg.keyType v).map fun t => { k with kty := t } := by
  simp +decide only [keyDispatch, ↓reduceIte]
  cases RegLabel.fromValue Reg.keyType v <;> rfl

theorem keyDispatch_kid : keyDispatch (.int 2) v k = (tryAsNonemptyBytes v).map fun b => { k with keyId := b } := by
  simp +decide only [keyDispatch, ↓reduceIte]
  cases tryAsNonemptyBytes v <;> rfl

theorem keyDispatch_alg : keyDispatch (.int 3) v k = (RegLabelPriv.fromValue Reg.algorithm v).map fun a => { k with alg := some a } := by
  simp +decide only [keyDispatch, ↓reduceIte]
  cases RegLabelPriv.fromValue Reg.algorithm v <;> rfl

theorem keyDispatch_ops : keyDispatch (.int 4) v k = (keyOpsOf v k.keyOps).map fun s => { k with keyOps := s } := by
  simp +decide only [keyDispatch, keyOpsOf, ↓reduceIte]
  cases tryAsArray v with
  | ok ops =>
    dsimp only
    cases keyOpsLoop ops k.keyOps with
    | ok s => dsimp only; cases s.isEmpty <;> rfl
    | _ => rfl
  | _ => rfl

theorem keyDispatch_biv : keyDispatch (.int 5) v k = (tryAsNonemptyBytes v).map fun b => { k with baseIv := b } := by
  simp +decide only [keyDispatch, ↓reduceIte]
  cases tryAsNonemptyBytes v <;> rfl

end

theorem keyDispatch_other (l : Label) (v : Value) (k : CoseKey) (hl : l ∉ keyLabels5) :
    keyDispatch l v k = .ok { k with params := k.params ++ [(l, v)] } := by
  simp only [keyLabels5, List.mem_cons, List.not_mem_nil, or_false, not_or] at hl
  simp only [keyDispatch, keyLabel_values, hl, if_false]

structure KeyFrame (l : Label) (v : Value) (k k1 : CoseKey) : Prop where
  kty : l ≠ .int 1 → k1.kty = k.kty
  keyId : l ≠ .int 2 → k1.keyId = k.keyId
  alg : l ≠ .int 3 → k1.alg = k.alg
  keyOps : l ≠ .int 4 → k1.keyOps = k.keyOps
  baseIv : l ≠ .int 5 → k1.baseIv = k.baseIv
  params : k1.params = k.params ++ if l ∉ keyLabels5 then [(l, v)] else []

theorem keyDispatch_frame (l : Label) (v : Value) (k k1 : CoseKey) (hd : keyDispatch l v k = .ok k1) : KeyFrame l v k k1 := by
  by_cases hl : l ∈ keyLabels5
  · simp only [keyLabels5, List.mem_cons, List.not_mem_nil, or_false] at hl
    rcases hl with rfl | rfl | rfl | rfl | rfl
    · rw [keyDispatch_kty] at hd; obtain ⟨x, -, rfl⟩ := Res.map_eq_ok.mp hd; constructor <;> simp [keyLabels5]
    · rw [keyDispatch_kid] at hd; obtain ⟨x, -, rfl⟩ := Res.map_eq_ok.mp hd; constructor <;> simp [keyLabels5]
    · rw [keyDispatch_alg] at hd; obtain ⟨x, -, rfl⟩ := Res.map_eq_ok.mp hd; constructor <;> simp [keyLabels5]
    · rw [keyDispatch_ops] at hd; obtain ⟨x, -, rfl⟩ := Res.map_eq_ok.mp hd; constructor <;> simp [keyLabels5]
    · rw [keyDispatch_biv] at hd; obtain ⟨x, -, rfl⟩ := Res.map_eq_ok.mp hd; constructor <;> simp [keyLabels5]
  · rw [keyDispatch_other l v k hl] at hd; cases hd
    simp only [keyLabels5, List.mem_cons, List.not_mem_nil, or_false, not_or] at hl
    constructor <;> simp [keyLabels5, hl]

theorem fold_keyOf (ps : List (Label × Value)) (k0 k : CoseKey) (hnd : (ps.map (·.1)).Nodup)
    (hf : foldRes keyStep ps k0 = .ok k) : KeyOf keyOpsLoop ps k0 k := by
  have fr := fun l v k k1 (hs : keyStep k (l, v) = .ok k1) => keyDispatch_frame l v k k1 hs
  refine ⟨?_, ?_, ?_, ?_, ?_, ?_⟩
  · refine fold_lookup _ CoseKey.kty (.int 1) (fun v _ x => ∃ t, RegLabel.fromValue Reg.keyType v = .ok t ∧ x = t)
      (fun l v k k1 hl hs => (fr l v k k1 hs).kty hl) (fun v k k1 hs => ?_) ps k0 k hnd hf
    obtain ⟨t, ht, rfl⟩ := Res.map_eq_ok.mp ((keyDispatch_kty v k).symm.trans hs); exact ⟨t, ht, rfl⟩
  · refine fold_lookup _ CoseKey.keyId (.int 2) (fun v _ x => ∃ b, v = .bytes b ∧ b ≠ [] ∧ x = b)
      (fun l v k k1 hl hs => (fr l v k k1 hs).keyId hl) (fun v k k1 hs => ?_) ps k0 k hnd hf
    obtain ⟨b, hb, rfl⟩ := Res.map_eq_ok.mp ((keyDispatch_kid v k).symm.trans hs)
    obtain ⟨hv, hne⟩ := (tryAsNonemptyBytes_ok v b).mp hb; exact ⟨b, hv, hne, rfl⟩
  · refine fold_lookup _ CoseKey.alg (.int 3) (fun v _ x => ∃ a, RegLabelPriv.fromValue Reg.algorithm v = .ok a ∧ x = some a)
      (fun l v k k1 hl hs => (fr l v k k1 hs).alg hl) (fun v k k1 hs => ?_) ps k0 k hnd hf
    obtain ⟨a, ha, rfl⟩ := Res.map_eq_ok.mp ((keyDispatch_alg v k).symm.trans hs); exact ⟨a, ha, rfl⟩
  · refine fold_lookup _ CoseKey.keyOps (.int 4) (fun v o x => ∃ a s, v = .array a ∧ keyOpsLoop a o = .ok s ∧ s ≠ [] ∧ x = s)
      (fun l v k k1 hl hs => (fr l v k k1 hs).keyOps hl) (fun v k k1 hs => ?_) ps k0 k hnd hf
    obtain ⟨s, hs', rfl⟩ := Res.map_eq_ok.mp ((keyDispatch_ops v k).symm.trans hs)
    obtain ⟨a, hv, hl, hne⟩ := (keyOpsOf_ok v _ s).mp hs'; exact ⟨a, s, hv, hl, hne, rfl⟩
  · refine fold_lookup _ CoseKey.baseIv (.int 5) (fun v _ x => ∃ b, v = .bytes b ∧ b ≠ [] ∧ x = b)
      (fun l v k k1 hl hs => (fr l v k k1 hs).baseIv hl) (fun v k k1 hs => ?_) ps k0 k hnd hf
    obtain ⟨b, hb, rfl⟩ := Res.map_eq_ok.mp ((keyDispatch_biv v k).symm.trans hs)
    obtain ⟨hv, hne⟩ := (tryAsNonemptyBytes_ok v b).mp hb; exact ⟨b, hv, hne, rfl⟩
  · exact fold_rest _ CoseKey.params keyLabels5 (fun l v k k1 hs => (fr l v k k1 hs).params) ps k0 k hf

/-- the shape rule for one key entry (RFC 8152 §7.1). -/
structure KeyEntryOk (l : Label) (v : Value) : Prop where
  kty : l = .int 1 → ∃ t, RegLabel.fromValue Reg.keyType v = .ok t
  bstr : (l = .int 2 ∨ l = .int 5) → ∃ b, v = .bytes b ∧ b ≠ []
  alg : l = .int 3 → ∃ a, RegLabelPriv.fromValue Reg.algorithm v = .ok a
  ops : l = .int 4 → ∃ a s, v = .array a ∧ keyOpsLoop a [] = .ok s ∧ s ≠ []

/-- `hops`: key operations are dispatched into a set that is still empty (`KeyEntryOk.ops`). -/
theorem keyDispatch_accepts (l : Label) (v : Value) (k0 : CoseKey) (he : KeyEntryOk l v) (hops : l = .int 4 → k0.keyOps = []) :
    ∃ k1, keyDispatch l v k0 = .ok k1 := by
  by_cases hl : l ∈ keyLabels5
  · simp only [keyLabels5, List.mem_cons, List.not_mem_nil, or_false] at hl
    rcases hl with rfl | rfl | rfl | rfl | rfl
    · obtain ⟨t, ht⟩ := he.kty rfl; exact ⟨_, (keyDispatch_kty ..).trans (Res.map_ok_of ht)⟩
    · obtain ⟨b, h1, h2⟩ := he.bstr (.inl rfl)
      exact ⟨_, (keyDispatch_kid ..).trans (Res.map_ok_of ((tryAsNonemptyBytes_ok v b).mpr ⟨h1, h2⟩))⟩
    · obtain ⟨a, ha⟩ := he.alg rfl; exact ⟨_, (keyDispatch_alg ..).trans (Res.map_ok_of ha)⟩
    · obtain ⟨a, s, h1, h2, h3⟩ := he.ops rfl
      exact ⟨_, (keyDispatch_ops ..).trans (Res.map_ok_of ((keyOpsOf_ok v _ s).mpr ⟨a, h1, hops rfl ▸ h2, h3⟩))⟩
    · obtain ⟨b, h1, h2⟩ := he.bstr (.inr rfl)
      exact ⟨_, (keyDispatch_biv ..).trans (Res.map_ok_of ((tryAsNonemptyBytes_ok v b).mpr ⟨h1, h2⟩))⟩
  · exact ⟨_, keyDispatch_other l v k0 hl⟩

/-- the set of operations is still empty when label 4 comes, as labels do not repeat. -/
theorem keyFold_accepts (ps : List (Label × Value)) (k0 : CoseKey) (hnd : (ps.map (·.1)).Nodup) (hall : ∀ p ∈ ps, KeyEntryOk p.1 p.2)
    (hops : Label.int 4 ∈ ps.map (·.1) → k0.keyOps = []) : ∃ k, foldRes keyStep ps k0 = .ok k := by
  refine foldRes_total keyStep
    (fun k ps => (ps.map (·.1)).Nodup ∧ (∀ p ∈ ps, KeyEntryOk p.1 p.2) ∧ (Label.int 4 ∈ ps.map (·.1) → k.keyOps = [])) ?_ ps k0 ⟨hnd, hall, hops⟩
  rintro k ⟨l, v⟩ ps ⟨hnd, hall, hops⟩
  simp only [List.map_cons, List.nodup_cons] at hnd
  obtain ⟨k1, hs⟩ := keyDispatch_accepts l v k (hall (l, v) (by simp)) (fun e => hops (by simp [e]))
  have fops := (keyDispatch_frame l v k k1 hs).keyOps
  refine ⟨k1, hs, hnd.2, fun q hq => hall q (by simp [hq]), fun h4 => ?_⟩
  rw [fops fun e => hnd.1 (e ▸ h4)]; exact hops (by simp [h4])

end Coset
