import CosetProofs.Props.C01
import CosetProofs.Props.C02
import CosetProofs.Props.C03
import CosetProofs.Props.C04
import CosetProofs.Props.C05
import CosetProofs.Props.C06
import CosetProofs.Props.C07
import CosetProofs.Props.C08
import CosetProofs.Props.C09
import CosetProofs.Props.C10
import CosetProofs.Props.C11
import CosetProofs.Props.C12
import CosetProofs.Props.C13
import CosetProofs.Props.C14
import CosetProofs.Props.C15
import CosetProofs.Props.C16
import CosetProofs.Props.C17
import CosetProofs.Props.C18
import CosetProofs.Props.C19
import CosetProofs.Props.C20
import CosetProofs.Props.C01Ties
import CosetProofs.Props.C03Ties
import CosetProofs.Props.C04Ties
import CosetProofs.Props.C05Ties
import CosetProofs.Props.C09Ties
import CosetProofs.Props.C11Ties
import CosetProofs.Props.C13Ties
import CosetProofs.Props.C14Ties
import CosetProofs.Props.C15Ties
import CosetProofs.Props.C17Ties
import CosetProofs.Props.C19Ties
import CosetProofs.Props.C08Ties
import CosetProofs.Props.C10Ties
import CosetProofs.Props.C18Ties
import CosetProofs.Props.C16Ties
import CosetProofs.Props.C02Ties
import CosetProofs.Props.C06Ties
import CosetProofs.Props.C07Ties
import CosetProofs.Props.C12Ties
import CosetProofs.Props.C20Ties
