/-
  CosetModel.Parse — ciborium 0.2.2's deserializer for `Value` (`ciborium::de::from_reader`),
  with the behaviours coset's properties depend on:
  * recursion budget 256, consumed by arrays, maps and tags;
  * tag 2/3 in front of a *definite* byte string of ≤ 16 bytes is folded into an integer
    (or a normalised bignum tag), in front of anything else it is kept;
  * `undefined` reads as `null`; other simple values are errors; two-byte simple forms accepted;
  * f16/f32 widened to f64;  text UTF-8-validated per segment;  segmented strings may nest;
  * nothing is allocated from a declared length.
  `fuel` is for termination only (see `parse_no_oof`, `parse_fuel_irrelevant` in the proofs); `depth` is the 256 budget.
-/
import CosetModel.Value
import CosetModel.Utf8
namespace Coset.Cbor

/-- parser result: value, error (every ciborium error becomes `DecodeFailed`), or out of fuel. -/
inductive PR (α : Type) where
  | ok (a : α)
  | err
  | oof
  deriving Repr, Inhabited

/-- CBOR item heads as ciborium-ll's `Header`. -/
inductive Hd where
  | pos (n : Nat) | neg (n : Nat)
  | bytes (len : Option Nat) | text (len : Option Nat)
  | array (len : Option Nat) | map (len : Option Nat)
  | tag (n : Nat) | simple (n : Nat) | float (bits : Nat) | brk
  deriving Repr, Inhabited, DecidableEq

/-- argument of a head: (value, width in bytes, rest); minor 31 gives `none`. -/
def pullArg (minor : Nat) (rest : Bytes) : Option (Option (Nat × Nat) × Bytes) :=
  if minor < 24 then some (some (minor, 0), rest)
  else if minor = 24 then (if rest.length < 1 then none else some (some (beVal (rest.take 1), 1), rest.drop 1))
  else if minor = 25 then (if rest.length < 2 then none else some (some (beVal (rest.take 2), 2), rest.drop 2))
  else if minor = 26 then (if rest.length < 4 then none else some (some (beVal (rest.take 4), 4), rest.drop 4))
  else if minor = 27 then (if rest.length < 8 then none else some (some (beVal (rest.take 8), 8), rest.drop 8))
  else if minor = 31 then some (none, rest)
  else none

/-- `Decoder::pull`: read one head. -/
def pull : Bytes → Option (Hd × Bytes)
  | [] => none
  | b :: rest0 =>
    let major := b.toNat / 32
    let minor := b.toNat % 32
    match pullArg minor rest0 with
    | none => none
    | some (arg, rest) =>
      match major, arg with
      | 0, some (n, _) => some (.pos n, rest)
      | 1, some (n, _) => some (.neg n, rest)
      | 6, some (n, _) => some (.tag n, rest)
      | 0, none => none
      | 1, none => none
      | 6, none => none
      | 2, a => some (.bytes (a.map (·.1)), rest)
      | 3, a => some (.text (a.map (·.1)), rest)
      | 4, a => some (.array (a.map (·.1)), rest)
      | 5, a => some (.map (a.map (·.1)), rest)
      | _, none => some (.brk, rest)
      | _, some (n, w) =>
        if w = 0 ∨ w = 1 then some (.simple n, rest)
        else if w = 2 then some (.float (Float.f16to64 n), rest)
        else if w = 4 then some (.float (Float.f32to64 n), rest)
        else some (.float n, rest)

/-- `From<u128> for Value` after tag-2 folding. -/
def fromU128 (raw : Nat) : Value :=
  if raw < 2 ^ 64 then .int raw else .tag 2 (.bytes (minBytes raw))

/-- tag-3 folding: `-1 - raw` as `i128` (error above `i128::MAX`), then `From<i128> for Value`. -/
def fromNegU128 (raw : Nat) : Option Value :=
  if raw ≥ 2 ^ 127 then none
  else if raw < 2 ^ 64 then some (.int (-1 - (raw : Int)))
  else some (.tag 3 (.bytes (minBytes raw)))

/-- ciborium peeks at the head following a tag: a *definite* byte string of at most 16 bytes after tag 2/3 is a bignum to fold. -/
def smallBytesPeek (rest : Bytes) : Option (Nat × Bytes) :=
  match pull rest with
  | some (.bytes (some len), rest2) => if len ≤ 16 then some (len, rest2) else none
  | _ => none

/-- segments of an indefinite-length string; `nested` ≥ 1 open indefinite heads. -/
def chunks : (fuel : Nat) → (isText : Bool) → (nested : Nat) → Bytes → (acc : Bytes) → PR (Bytes × Bytes)
  | 0, _, _, _, _ => .oof
  | fuel+1, isText, nested, bs, acc =>
    match pull bs with
    | none => .err
    | some (.brk, rest) =>
      if nested ≤ 1 then .ok (acc, rest) else chunks fuel isText (nested - 1) rest acc
    | some (.bytes len, rest) =>
      if isText then .err else
      match len with
      | none => chunks fuel isText (nested + 1) rest acc
      | some n => if rest.length < n then .err else chunks fuel isText nested (rest.drop n) (acc ++ rest.take n)
    | some (.text len, rest) =>
      if !isText then .err else
      match len with
      | none => chunks fuel isText (nested + 1) rest acc
      | some n =>
        if rest.length < n then .err
        else if !Utf8.valid (rest.take n) then .err
        else chunks fuel isText nested (rest.drop n) (acc ++ rest.take n)
    | some _ => .err

mutual
/-- one data item. -/
def parse : (fuel depth : Nat) → Bytes → PR (Value × Bytes)
  | 0, _, _ => .oof
  | fuel+1, depth, bs =>
    match pull bs with
    | none => .err
    | some (hd, rest) =>
      match hd with
      | .pos n => .ok (.int n, rest)
      | .neg n => .ok (.int (-1 - (n : Int)), rest)
      | .bytes (some n) =>
        if rest.length < n then .err else .ok (.bytes (rest.take n), rest.drop n)
      | .bytes none =>
        match chunks fuel false 1 rest [] with
        | .ok (b, r) => .ok (.bytes b, r)
        | .err => .err
        | .oof => .oof
      | .text (some n) =>
        if rest.length < n then .err
        else if !Utf8.valid (rest.take n) then .err
        else .ok (.text (rest.take n), rest.drop n)
      | .text none =>
        match chunks fuel true 1 rest [] with
        | .ok (b, r) => .ok (.text b, r)
        | .err => .err
        | .oof => .oof
      | .array (some n) =>
        if depth = 0 then .err else
        match parseN fuel (depth - 1) n rest with
        | .ok (xs, r) => .ok (.array xs, r)
        | .err => .err
        | .oof => .oof
      | .array none =>
        if depth = 0 then .err else
        match parseIndef fuel (depth - 1) rest with
        | .ok (xs, r) => .ok (.array xs, r)
        | .err => .err
        | .oof => .oof
      | .map (some n) =>
        if depth = 0 then .err else
        match parsePairsN fuel (depth - 1) n rest with
        | .ok (xs, r) => .ok (.map xs, r)
        | .err => .err
        | .oof => .oof
      | .map none =>
        if depth = 0 then .err else
        match parsePairsIndef fuel (depth - 1) rest with
        | .ok (xs, r) => .ok (.map xs, r)
        | .err => .err
        | .oof => .oof
      | .tag t =>
        match (if t = 2 ∨ t = 3 then smallBytesPeek rest else none) with
        | some (len, rest2) =>
          if rest2.length < len then .err else
          let raw := beVal (rest2.take len)
          if t = 2 then .ok (fromU128 raw, rest2.drop len)
          else match fromNegU128 raw with
            | some v => .ok (v, rest2.drop len)
            | none => .err
        | none =>
          if depth = 0 then .err else
          match parse fuel (depth - 1) rest with
          | .ok (v, r) => .ok (.tag t v, r)
          | .err => .err
          | .oof => .oof
      | .float bits => .ok (.float (UInt64.ofNat bits), rest)
      | .simple n =>
        if n = 20 then .ok (.bool false, rest)
        else if n = 21 then .ok (.bool true, rest)
        else if n = 22 ∨ n = 23 then .ok (.null, rest)
        else .err
      | .brk => .err
/-- `n` items (definite-length array body). -/
def parseN : (fuel depth : Nat) → Nat → Bytes → PR (List Value × Bytes)
  | 0, _, _, _ => .oof
  | _+1, _, 0, bs => .ok ([], bs)
  | fuel+1, depth, n+1, bs =>
    match parse fuel depth bs with
    | .ok (v, r) =>
      match parseN fuel depth n r with
      | .ok (xs, r') => .ok (v :: xs, r')
      | .err => .err
      | .oof => .oof
    | .err => .err
    | .oof => .oof
/-- items up to a break (indefinite-length array body). -/
def parseIndef : (fuel depth : Nat) → Bytes → PR (List Value × Bytes)
  | 0, _, _ => .oof
  | fuel+1, depth, bs =>
    if bs.head? = some 0xff then .ok ([], bs.tail)      -- the break byte (`pull` gives `brk` exactly for 0xff)
    else
      match parse fuel depth bs with
      | .ok (v, r) =>
        match parseIndef fuel depth r with
        | .ok (xs, r') => .ok (v :: xs, r')
        | .err => .err
        | .oof => .oof
      | .err => .err
      | .oof => .oof
/-- `n` key/value pairs. -/
def parsePairsN : (fuel depth : Nat) → Nat → Bytes → PR (List (Value × Value) × Bytes)
  | 0, _, _, _ => .oof
  | _+1, _, 0, bs => .ok ([], bs)
  | fuel+1, depth, n+1, bs =>
    match parse fuel depth bs with
    | .ok (k, r) =>
      match parse fuel depth r with
      | .ok (v, r2) =>
        match parsePairsN fuel depth n r2 with
        | .ok (xs, r') => .ok ((k, v) :: xs, r')
        | .err => .err
        | .oof => .oof
      | .err => .err
      | .oof => .oof
    | .err => .err
    | .oof => .oof
/-- key/value pairs up to a break. -/
def parsePairsIndef : (fuel depth : Nat) → Bytes → PR (List (Value × Value) × Bytes)
  | 0, _, _ => .oof
  | fuel+1, depth, bs =>
    if bs.head? = some 0xff then .ok ([], bs.tail)
    else
      match parse fuel depth bs with
      | .ok (k, r) =>
        match parse fuel depth r with
        | .ok (v, r2) =>
          match parsePairsIndef fuel depth r2 with
          | .ok (xs, r') => .ok ((k, v) :: xs, r')
          | .err => .err
          | .oof => .oof
        | .err => .err
        | .oof => .oof
      | .err => .err
      | .oof => .oof
end

/-- ciborium's recursion budget. -/
def recursionLimit : Nat := 256

/-- fuel that is always enough for input `bs` (each call consumes at least one input byte; the pair
    functions make two calls per level; see `parse_no_oof`, `parse_fuel_irrelevant`). -/
def fuelFor (bs : Bytes) : Nat := 3 * bs.length + 3

/-- `ciborium::de::from_reader(&mut slice)` : the value and the unread rest. -/
def fromReader (bs : Bytes) : PR (Value × Bytes) := parse (fuelFor bs) recursionLimit bs

end Coset.Cbor

namespace Coset
open Cbor

/-- `read_to_value` (src/common/mod.rs): parse one item, fail if bytes remain. -/
def readToValue (bs : Bytes) : Res Value :=
  match fromReader bs with
  | .ok (v, rest) => if rest.isEmpty then .ok v else .err .extraneousData
  | .err => .err .decodeFailed
  | .oof => .err .outOfFuel

end Coset
