/-
  CosetModel.KeyCwtContext — COSE_Key / COSE_KeySet (src/key/mod.rs), CWT claims sets (src/cwt/mod.rs),
  COSE_KDF_Context and its parts (src/context/mod.rs).
-/
import CosetModel.Messages
namespace Coset

/-! ## COSE_Key -/

structure CoseKey where
  kty : RegLabel
  keyId : Bytes
  alg : Option RegLabelPriv
  keyOps : List RegLabel          -- `BTreeSet<KeyOperation>`: kept in iteration (ascending) order
  baseIv : Bytes
  params : List (Label × Value)
  deriving Inhabited

/-- `KeyType::Assigned(iana::KeyType::Reserved)` : the variant whose integer is the `Reserved` row. -/
def ktyReservedIdx : Nat := Gen.idx_KeyType_Reserved

/-- `CoseKey::default()` -/
def CoseKey.default : CoseKey := ⟨.assigned ktyReservedIdx, [], none, [], [], []⟩

def kKTY : Label := .int Gen.key_KTY
def kKID : Label := .int Gen.key_KID
def kALG : Label := .int Gen.key_ALG
def kKEY_OPS : Label := .int Gen.key_KEY_OPS
def kBASE_IV : Label := .int Gen.key_BASE_IV

/-- the `for key_op in key_ops` loop: insert into the ordered set, reject repeats. -/
def keyOpsLoop : List Value → List RegLabel → Res (List RegLabel)
  | [], s => .ok s
  | v :: vs, s =>
    match RegLabel.fromValue Reg.keyOperation v with
    | .ok op =>
      match setInsert (RegLabel.cmp Reg.keyOperation) s op with
      | .ok (some s') => keyOpsLoop vs s'
      | .ok none => .err .unexpectedItem
      | .err e => .err e
      | .panic p => .panic p
    | .err e => .err e
    | .panic p => .panic p

def keyDispatch (label : Label) (value : Value) (k : CoseKey) : Res CoseKey :=
  if label = kKTY then
    match RegLabel.fromValue Reg.keyType value with
    | .ok t => .ok { k with kty := t }
    | .err e => .err e
    | .panic p => .panic p
  else if label = kKID then
    match tryAsNonemptyBytes value with
    | .ok b => .ok { k with keyId := b }
    | .err e => .err e
    | .panic p => .panic p
  else if label = kALG then
    match RegLabelPriv.fromValue Reg.algorithm value with
    | .ok a => .ok { k with alg := some a }
    | .err e => .err e
    | .panic p => .panic p
  else if label = kKEY_OPS then
    match tryAsArray value with
    | .ok ops =>
      match keyOpsLoop ops k.keyOps with
      | .ok s => if s.isEmpty then .err .unexpectedItem else .ok { k with keyOps := s }
      | .err e => .err e
      | .panic p => .panic p
    | .err e => .err e
    | .panic p => .panic p
  else if label = kBASE_IV then
    match tryAsNonemptyBytes value with
    | .ok b => .ok { k with baseIv := b }
    | .err e => .err e
    | .panic p => .panic p
  else .ok { k with params := k.params ++ [(label, value)] }

def keyLoop : List (Value × Value) → CoseKey → List Label → Res CoseKey
  | [], k, _ => .ok k
  | (l, value) :: m, k, seen =>
    match Label.fromValue l with
    | .ok label =>
      match setContains Label.cmp seen label with
      | .ok true => .err .duplicateMapKey
      | .ok false =>
        match keyDispatch label value k with
        | .ok k' => keyLoop m k' (seen ++ [label])
        | .err e => .err e
        | .panic p => .panic p
      | .err e => .err e
      | .panic p => .panic p
    | .err e => .err e
    | .panic p => .panic p

/-- `CoseKey::from_cbor_value` -/
def CoseKey.fromValue (v : Value) : Res CoseKey :=
  match tryAsMap v with
  | .ok m =>
    match keyLoop m CoseKey.default [] with
    | .ok k => if k.kty = .assigned ktyReservedIdx then .err .unexpectedItem else .ok k
    | .err e => .err e
    | .panic p => .panic p
  | .err e => .err e
  | .panic p => .panic p

/-- `CoseKey::to_cbor_value` -/
def CoseKey.toValue (k : CoseKey) : Res Value :=
  match RegLabel.toValue Reg.keyType k.kty with
  | .ok ktyV =>
    let m0 : List (Value × Value) := [(.int Gen.key_KTY, ktyV)]
    let m1 := if !k.keyId.isEmpty then m0 ++ [(.int Gen.key_KID, .bytes k.keyId)] else m0
    match (match k.alg with
           | some a => match RegLabelPriv.toValue Reg.algorithm a with
             | .ok v => Res.ok (m1 ++ [(Value.int Gen.key_ALG, v)])
             | .err e => .err e
             | .panic p => .panic p
           | none => .ok m1) with
    | .ok m2 =>
      match (if !k.keyOps.isEmpty then
               match regLabelsToValues Reg.keyOperation k.keyOps with
               | .ok vs => Res.ok (m2 ++ [(Value.int Gen.key_KEY_OPS, Value.array vs)])
               | .err e => .err e
               | .panic p => .panic p
             else .ok m2) with
      | .ok m3 =>
        let m4 := if !k.baseIv.isEmpty then m3 ++ [(.int Gen.key_BASE_IV, .bytes k.baseIv)] else m3
        match restToPairs k.params (typedSeen m4) m4 with
        | .ok m => .ok (.map m)
        | .err e => .err e
        | .panic p => .panic p
      | .err e => .err e
      | .panic p => .panic p
    | .err e => .err e
    | .panic p => .panic p
  | .err e => .err e
  | .panic p => .panic p

inductive CborOrdering where | lexicographic | lengthFirstLexicographic
  deriving DecidableEq, Repr, Inhabited

/-- `l.0.cmp(&r.0) != Greater` as the `≤` driving the stable sort. -/
def labelLe (a b : Label) : Bool :=
  match Label.cmp a b with
  | .ok .gt => false
  | _ => true

def labelLeCanonical (a b : Label) : Bool :=
  match Label.cmpCanonical a b with
  | .ok .gt => false
  | _ => true

/-- `CoseKey::canonicalize`: stable sort of `params` by label under the chosen ordering.  A comparison
    can only panic if a label fails to serialise (never: `Coset.Props.C16.toVec_eq`). -/
def CoseKey.canonicalize (k : CoseKey) (ord : CborOrdering) : Res CoseKey :=
  match ord with
  | .lexicographic => .ok { k with params := k.params.mergeSort (fun l r => labelLe l.1 r.1) }
  | .lengthFirstLexicographic =>
    if k.params.length ≥ 2 ∧ ¬ k.params.all (fun p => (Label.toVec p.1).isOk) then .panic .expectErr
    else .ok { k with params := k.params.mergeSort (fun l r => labelLeCanonical l.1 r.1) }

/-- `CoseKeySet` -/
def CoseKeySet.fromValue (v : Value) : Res (List CoseKey) := tryAsArrayThenConvert CoseKey.fromValue v
def CoseKeySet.toValue (ks : List CoseKey) : Res Value :=
  match mapRes CoseKey.toValue ks with
  | .ok vs => .ok (.array vs)
  | .err e => .err e
  | .panic p => .panic p

/-! ## CWT -/

inductive Timestamp where
  | wholeSeconds (t : Int)
  | fractionalSeconds (bits : UInt64)
  deriving DecidableEq, Repr, Inhabited

def Timestamp.fromValue : Value → Res Timestamp
  | .int i => match narrowI64 i with
    | .ok n => .ok (.wholeSeconds n)
    | .err e => .err e
    | .panic p => .panic p
  | .float f => .ok (.fractionalSeconds f)
  | _ => typeError

def Timestamp.toValue : Timestamp → Res Value
  | .wholeSeconds t => .ok (.int t)
  | .fractionalSeconds f => .ok (.float f)

structure ClaimsSet where
  issuer : Option Bytes
  subject : Option Bytes
  audience : Option Bytes
  expirationTime : Option Timestamp
  notBefore : Option Timestamp
  issuedAt : Option Timestamp
  cwtId : Option Bytes
  rest : List (RegLabelPriv × Value)
  deriving Inhabited

def ClaimsSet.default : ClaimsSet := ⟨none, none, none, none, none, none, none, []⟩

/-- `ClaimName::Assigned(iana::CwtClaimName::X)` for the variant whose integer is `i`. -/
def cISS : RegLabelPriv := .assigned Gen.cwt_ISS_idx
def cSUB : RegLabelPriv := .assigned Gen.cwt_SUB_idx
def cAUD : RegLabelPriv := .assigned Gen.cwt_AUD_idx
def cEXP : RegLabelPriv := .assigned Gen.cwt_EXP_idx
def cNBF : RegLabelPriv := .assigned Gen.cwt_NBF_idx
def cIAT : RegLabelPriv := .assigned Gen.cwt_IAT_idx
def cCTI : RegLabelPriv := .assigned Gen.cwt_CTI_idx

def claimDispatch (name : RegLabelPriv) (value : Value) (c : ClaimsSet) : Res ClaimsSet :=
  if name = cISS then
    match tryAsString value with
    | .ok t => .ok { c with issuer := some t }
    | .err e => .err e
    | .panic p => .panic p
  else if name = cSUB then
    match tryAsString value with
    | .ok t => .ok { c with subject := some t }
    | .err e => .err e
    | .panic p => .panic p
  else if name = cAUD then
    match tryAsString value with
    | .ok t => .ok { c with audience := some t }
    | .err e => .err e
    | .panic p => .panic p
  else if name = cEXP then
    match Timestamp.fromValue value with
    | .ok t => .ok { c with expirationTime := some t }
    | .err e => .err e
    | .panic p => .panic p
  else if name = cNBF then
    match Timestamp.fromValue value with
    | .ok t => .ok { c with notBefore := some t }
    | .err e => .err e
    | .panic p => .panic p
  else if name = cIAT then
    match Timestamp.fromValue value with
    | .ok t => .ok { c with issuedAt := some t }
    | .err e => .err e
    | .panic p => .panic p
  else if name = cCTI then
    match tryAsBytes value with
    | .ok b => .ok { c with cwtId := some b }
    | .err e => .err e
    | .panic p => .panic p
  else .ok { c with rest := c.rest ++ [(name, value)] }

def claimsLoop : List (Value × Value) → ClaimsSet → List RegLabelPriv → Res ClaimsSet
  | [], c, _ => .ok c
  | (n, value) :: m, c, seen =>
    match RegLabelPriv.fromValue Reg.cwtClaimName n with
    | .ok name =>
      match setContains (RegLabelPriv.cmp Reg.cwtClaimName) seen name with
      | .ok true => .err .duplicateMapKey
      | .ok false =>
        match claimDispatch name value c with
        | .ok c' => claimsLoop m c' (seen ++ [name])
        | .err e => .err e
        | .panic p => .panic p
      | .err e => .err e
      | .panic p => .panic p
    | .err e => .err e
    | .panic p => .panic p

/-- `ClaimsSet::from_cbor_value` -/
def ClaimsSet.fromValue (v : Value) : Res ClaimsSet :=
  match v with
  | .map m => claimsLoop m ClaimsSet.default []
  | _ => typeError

def claimsRestToPairs : List (RegLabelPriv × Value) → Res (List (Value × Value))
  | [] => .ok []
  | (l, v) :: r =>
    match RegLabelPriv.toValue Reg.cwtClaimName l with
    | .ok k =>
      match claimsRestToPairs r with
      | .ok ps => .ok ((k, v) :: ps)
      | .err e => .err e
      | .panic p => .panic p
    | .err e => .err e
    | .panic p => .panic p

def optPush (m : List (Value × Value)) (label : Int) (v : Option Value) : List (Value × Value) :=
  match v with
  | some x => m ++ [(.int label, x)]
  | none => m

def tsValue (t : Timestamp) : Value :=
  match t with
  | .wholeSeconds n => .int n
  | .fractionalSeconds f => .float f

/-- `ClaimsSet::to_cbor_value` (no duplicate check in the source). -/
def ClaimsSet.toValue (c : ClaimsSet) : Res Value :=
  let m := optPush [] Gen.cwt_ISS (c.issuer.map .text)
  let m := optPush m Gen.cwt_SUB (c.subject.map .text)
  let m := optPush m Gen.cwt_AUD (c.audience.map .text)
  let m := optPush m Gen.cwt_EXP (c.expirationTime.map tsValue)
  let m := optPush m Gen.cwt_NBF (c.notBefore.map tsValue)
  let m := optPush m Gen.cwt_IAT (c.issuedAt.map tsValue)
  let m := optPush m Gen.cwt_CTI (c.cwtId.map .bytes)
  match claimsRestToPairs c.rest with
  | .ok ps => .ok (.map (m ++ ps))
  | .err e => .err e
  | .panic p => .panic p

/-! ## COSE_KDF_Context -/

inductive Nonce where
  | bytes (b : Bytes)
  | integer (i : Int)
  deriving DecidableEq, Repr, Inhabited

structure PartyInfo where
  identity : Option Bytes
  nonce : Option Nonce
  other : Option Bytes
  deriving DecidableEq, Repr, Inhabited

def PartyInfo.default : PartyInfo := ⟨none, none, none⟩

def nullOrBytes : Value → Res (Option Bytes)
  | .null => .ok none
  | .bytes b => .ok (some b)
  | _ => typeError

/-- `PartyInfo::from_cbor_value` -/
def PartyInfo.fromValue (v : Value) : Res PartyInfo :=
  match tryAsArray v with
  | .ok a =>
    if Gen.PartyInfo_arityBad a.length then .err .unexpectedItem else
    match vremove a (Gen.PartyInfo_removes.getD 0 99) with
    | .ok (x2, a) =>
      match nullOrBytes x2 with
      | .ok other =>
        match vremove a (Gen.PartyInfo_removes.getD 1 99) with
        | .ok (x1, a) =>
          match (match x1 with
                 | .null => Res.ok (none : Option Nonce)
                 | .bytes b => .ok (some (.bytes b))
                 | .int u => match narrowI64 u with
                   | .ok n => .ok (some (.integer n))
                   | .err e => .err e
                   | .panic p => .panic p
                 | _ => typeError) with
          | .ok nonce =>
            match vremove a (Gen.PartyInfo_removes.getD 2 99) with
            | .ok (x0, _) =>
              match nullOrBytes x0 with
              | .ok identity => .ok ⟨identity, nonce, other⟩
              | .err e => .err e
              | .panic p => .panic p
            | .err e => .err e
            | .panic p => .panic p
          | .err e => .err e
          | .panic p => .panic p
        | .err e => .err e
        | .panic p => .panic p
      | .err e => .err e
      | .panic p => .panic p
    | .err e => .err e
    | .panic p => .panic p
  | .err e => .err e
  | .panic p => .panic p

def PartyInfo.toValue (p : PartyInfo) : Res Value :=
  .ok (.array [optBytesToValue p.identity,
               (match p.nonce with
                | none => .null
                | some (.bytes b) => .bytes b
                | some (.integer i) => .int i),
               optBytesToValue p.other])

structure SuppPubInfo where
  keyDataLength : Int            -- u64
  protected_ : ProtectedHeader
  other : Option Bytes
  deriving Inhabited

def SuppPubInfo.default : SuppPubInfo := ⟨0, ProtectedHeader.default, none⟩

/-- `SuppPubInfo::from_cbor_value` -/
def SuppPubInfo.fromValue (v : Value) : Res SuppPubInfo :=
  match tryAsArray v with
  | .ok a =>
    if Gen.SuppPubInfo_arityBad a.length then .err .unexpectedItem else
    match (if a.length == 3 then
             match vremove a (Gen.SuppPubInfo_removes.getD 0 99) with
             | .ok (x2, a) =>
               match tryAsBytes x2 with
               | .ok b => Res.ok (some b, a)
               | .err e => .err e
               | .panic p => .panic p
             | .err e => .err e
             | .panic p => .panic p
           else .ok (none, a)) with
    | .ok (other, a) =>
      match vremove a (Gen.SuppPubInfo_removes.getD 1 99) with
      | .ok (x1, a) =>
        match phFromBstr x1 with
        | .ok prot =>
          match vremove a (Gen.SuppPubInfo_removes.getD 2 99) with
          | .ok (x0, _) =>
            match tryAsInteger x0 with
            | .ok n =>
              match narrowU64 n with
              | .ok len => .ok ⟨len, prot, other⟩
              | .err e => .err e
              | .panic p => .panic p
            | .err e => .err e
            | .panic p => .panic p
          | .err e => .err e
          | .panic p => .panic p
        | .err e => .err e
        | .panic p => .panic p
      | .err e => .err e
      | .panic p => .panic p
    | .err e => .err e
    | .panic p => .panic p
  | .err e => .err e
  | .panic p => .panic p

def SuppPubInfo.toValue (s : SuppPubInfo) : Res Value :=
  match ProtectedHeader.cborBstr s.protected_ with
  | .ok pv =>
    let v := [Value.int s.keyDataLength, pv]
    match s.other with
    | some o => .ok (.array (v ++ [.bytes o]))
    | none => .ok (.array v)
  | .err e => .err e
  | .panic p => .panic p

structure CoseKdfContext where
  algorithmId : RegLabelPriv
  partyUInfo : PartyInfo
  partyVInfo : PartyInfo
  suppPubInfo : SuppPubInfo
  suppPrivInfo : List Bytes
  deriving Inhabited

/-- `Algorithm::default()` = `Assigned(iana::Algorithm::Reserved)` -/
def algReservedIdx : Nat := Gen.idx_Algorithm_Reserved

def CoseKdfContext.default : CoseKdfContext :=
  ⟨.assigned algReservedIdx, PartyInfo.default, PartyInfo.default, SuppPubInfo.default, []⟩

/-- `for i in (4..a.len()).rev() { supp_priv_info.push(a.remove(i).try_as_bytes()?) }` -/
def kdfTail : List Nat → List Value → List Bytes → Res (List Bytes × List Value)
  | [], a, acc => .ok (acc, a)
  | i :: is, a, acc =>
    match vremove a i with
    | .ok (x, a') =>
      match tryAsBytes x with
      | .ok b => kdfTail is a' (acc ++ [b])
      | .err e => .err e
      | .panic p => .panic p
    | .err e => .err e
    | .panic p => .panic p

/-- `CoseKdfContext::from_cbor_value` -/
def CoseKdfContext.fromValue (v : Value) : Res CoseKdfContext :=
  match tryAsArray v with
  | .ok a =>
    if Gen.CoseKdfContext_arityBad a.length then .err .unexpectedItem else
    if a.length < 4 then .panic .subOverflow else           -- `a.len() - 4`
    match kdfTail (List.range' 4 (a.length - 4)).reverse a [] with
    | .ok (privRev, a) =>
      match vremove a (Gen.CoseKdfContext_removes.getD 0 99) with
      | .ok (x3, a) =>
        match SuppPubInfo.fromValue x3 with
        | .ok supp =>
          match vremove a (Gen.CoseKdfContext_removes.getD 1 99) with
          | .ok (x2, a) =>
            match PartyInfo.fromValue x2 with
            | .ok pv =>
              match vremove a (Gen.CoseKdfContext_removes.getD 2 99) with
              | .ok (x1, a) =>
                match PartyInfo.fromValue x1 with
                | .ok pu =>
                  match vremove a (Gen.CoseKdfContext_removes.getD 3 99) with
                  | .ok (x0, _) =>
                    match RegLabelPriv.fromValue Reg.algorithm x0 with
                    | .ok alg => .ok ⟨alg, pu, pv, supp, privRev.reverse⟩
                    | .err e => .err e
                    | .panic p => .panic p
                  | .err e => .err e
                  | .panic p => .panic p
                | .err e => .err e
                | .panic p => .panic p
              | .err e => .err e
              | .panic p => .panic p
            | .err e => .err e
            | .panic p => .panic p
          | .err e => .err e
          | .panic p => .panic p
        | .err e => .err e
        | .panic p => .panic p
      | .err e => .err e
      | .panic p => .panic p
    | .err e => .err e
    | .panic p => .panic p
  | .err e => .err e
  | .panic p => .panic p

def CoseKdfContext.toValue (k : CoseKdfContext) : Res Value :=
  match RegLabelPriv.toValue Reg.algorithm k.algorithmId with
  | .ok av =>
    match PartyInfo.toValue k.partyUInfo with
    | .ok uv =>
      match PartyInfo.toValue k.partyVInfo with
      | .ok vv =>
        match SuppPubInfo.toValue k.suppPubInfo with
        | .ok sv => .ok (.array ([av, uv, vv, sv] ++ k.suppPrivInfo.map .bytes))
        | .err e => .err e
        | .panic p => .panic p
      | .err e => .err e
      | .panic p => .panic p
    | .err e => .err e
    | .panic p => .panic p
  | .err e => .err e
  | .panic p => .panic p

end Coset
