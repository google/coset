/-
  CosetModel.Header — `Header`, `ProtectedHeader`, `CoseSignature` (src/header/mod.rs, src/sign/mod.rs):
  the one mutually recursive family of the crate.  Decoding takes a `fuel` argument decremented at every
  descent Header → CoseSignature → ProtectedHeader → (re-parse) → Header.
-/
import CosetModel.Label
namespace Coset

mutual
/-- `struct Header` -/
inductive Header where
  | mk (alg : Option RegLabelPriv) (crit : List RegLabel) (contentType : Option RegLabel)
       (keyId iv partialIv : Bytes) (counterSignatures : List CoseSignature) (rest : List (Label × Value))
/-- `struct CoseSignature` -/
inductive CoseSignature where
  | mk (protected_ : ProtectedHeader) (unprotected : Header) (signature : Bytes)
/-- `struct ProtectedHeader` -/
inductive ProtectedHeader where
  | mk (originalData : Option Bytes) (header : Header)
end

namespace Header
def alg : Header → Option RegLabelPriv | .mk a _ _ _ _ _ _ _ => a
def crit : Header → List RegLabel | .mk _ c _ _ _ _ _ _ => c
def contentType : Header → Option RegLabel | .mk _ _ c _ _ _ _ _ => c
def keyId : Header → Bytes | .mk _ _ _ k _ _ _ _ => k
def iv : Header → Bytes | .mk _ _ _ _ i _ _ _ => i
def partialIv : Header → Bytes | .mk _ _ _ _ _ p _ _ => p
def counterSignatures : Header → List CoseSignature | .mk _ _ _ _ _ _ c _ => c
def rest : Header → List (Label × Value) | .mk _ _ _ _ _ _ _ r => r

/-- `Header::default()` -/
def default : Header := .mk none [] none [] [] [] [] []
instance : Inhabited Header := ⟨Header.default⟩

def setAlg (h : Header) (a : Option RegLabelPriv) : Header :=
  .mk a h.crit h.contentType h.keyId h.iv h.partialIv h.counterSignatures h.rest
def setCrit (h : Header) (c : List RegLabel) : Header :=
  .mk h.alg c h.contentType h.keyId h.iv h.partialIv h.counterSignatures h.rest
def setContentType (h : Header) (c : Option RegLabel) : Header :=
  .mk h.alg h.crit c h.keyId h.iv h.partialIv h.counterSignatures h.rest
def setKeyId (h : Header) (b : Bytes) : Header :=
  .mk h.alg h.crit h.contentType b h.iv h.partialIv h.counterSignatures h.rest
def setIv (h : Header) (b : Bytes) : Header :=
  .mk h.alg h.crit h.contentType h.keyId b h.partialIv h.counterSignatures h.rest
def setPartialIv (h : Header) (b : Bytes) : Header :=
  .mk h.alg h.crit h.contentType h.keyId h.iv b h.counterSignatures h.rest
def setCounterSignatures (h : Header) (c : List CoseSignature) : Header :=
  .mk h.alg h.crit h.contentType h.keyId h.iv h.partialIv c h.rest
def setRest (h : Header) (r : List (Label × Value)) : Header :=
  .mk h.alg h.crit h.contentType h.keyId h.iv h.partialIv h.counterSignatures r

/-- `Header::is_empty` -/
def isEmpty (h : Header) : Bool :=
  h.alg.isNone && h.crit.isEmpty && h.contentType.isNone && h.keyId.isEmpty && h.iv.isEmpty
    && h.partialIv.isEmpty && h.counterSignatures.isEmpty && h.rest.isEmpty
end Header

namespace CoseSignature
def protected_ : CoseSignature → ProtectedHeader | .mk p _ _ => p
def unprotected : CoseSignature → Header | .mk _ u _ => u
def signature : CoseSignature → Bytes | .mk _ _ s => s
end CoseSignature

namespace ProtectedHeader
def originalData : ProtectedHeader → Option Bytes | .mk o _ => o
def header : ProtectedHeader → Header | .mk _ h => h
def default : ProtectedHeader := .mk none Header.default
instance : Inhabited ProtectedHeader := ⟨ProtectedHeader.default⟩
/-- `ProtectedHeader::is_empty` -/
def isEmpty (p : ProtectedHeader) : Bool := p.header.isEmpty
end ProtectedHeader

instance : Inhabited CoseSignature := ⟨.mk ProtectedHeader.default Header.default []⟩
def CoseSignature.default : CoseSignature := .mk ProtectedHeader.default Header.default []

/-! ### label constants (regenerated from the source: F5) -/
def hALG : Label := .int Gen.header_ALG
def hCRIT : Label := .int Gen.header_CRIT
def hCONTENT_TYPE : Label := .int Gen.header_CONTENT_TYPE
def hKID : Label := .int Gen.header_KID
def hIV : Label := .int Gen.header_IV
def hPARTIAL_IV : Label := .int Gen.header_PARTIAL_IV
def hCOUNTER_SIG : Label := .int Gen.header_COUNTER_SIG

/-- the content-type text checks of `Header::from_cbor_value`. -/
def contentTypeTextOk (t : Bytes) : Bool :=
  !t.isEmpty && Utf8.isTrimmed t && Utf8.slashCount t == 1

/-- the COUNTER_SIG arm: single signature vs array of signatures, decided on the first element. -/
def counterSigArm (depth : Nat) (sigFrom : Value → Res CoseSignature) (value : Value) : Res (List CoseSignature) :=
  match tryAsArray value with
  | .ok sigOrSigs =>
    if sigOrSigs.isEmpty then .err .unexpectedItem
    else if depth = 0 then .err .decodeFailed          -- nesting budget exhausted (RecursionLimitExceeded)
    else
      match vindex sigOrSigs 0 with
      | .ok (.bytes _) =>
        match sigFrom (.array sigOrSigs) with
        | .ok s => .ok [s]
        | .err e => .err e
        | .panic p => .panic p
      | .ok (.array _) => mapRes sigFrom sigOrSigs
      | .ok _ => typeError
      | .err e => .err e
      | .panic p => .panic p
  | .err e => .err e
  | .panic p => .panic p

/-- one iteration of the `for (l, value) in m` loop, after the duplicate check: dispatch on the label. -/
def headerDispatch (depth : Nat) (sigFrom : Value → Res CoseSignature) (label : Label) (value : Value) (h : Header) : Res Header :=
  if label = hALG then
    match RegLabelPriv.fromValue Reg.algorithm value with
    | .ok a => .ok (h.setAlg (some a))
    | .err e => .err e
    | .panic p => .panic p
  else if label = hCRIT then
    match value with
    | .array a =>
      if a.isEmpty then .err .unexpectedItem
      else
        match mapRes (RegLabel.fromValue Reg.headerParameter) a with
        | .ok ls => .ok (h.setCrit (h.crit ++ ls))
        | .err e => .err e
        | .panic p => .panic p
    | _ => typeError
  else if label = hCONTENT_TYPE then
    match RegLabel.fromValue Reg.coapContentFormat value with
    | .ok ct =>
      match ct with
      | .text t => if contentTypeTextOk t then .ok (h.setContentType (some ct)) else .err .unexpectedItem
      | _ => .ok (h.setContentType (some ct))
    | .err e => .err e
    | .panic p => .panic p
  else if label = hKID then
    match tryAsNonemptyBytes value with
    | .ok b => .ok (h.setKeyId b)
    | .err e => .err e
    | .panic p => .panic p
  else if label = hIV then
    match tryAsNonemptyBytes value with
    | .ok b => .ok (h.setIv b)
    | .err e => .err e
    | .panic p => .panic p
  else if label = hPARTIAL_IV then
    match tryAsNonemptyBytes value with
    | .ok b => .ok (h.setPartialIv b)
    | .err e => .err e
    | .panic p => .panic p
  else if label = hCOUNTER_SIG then
    match counterSigArm depth sigFrom value with
    | .ok ss => .ok (h.setCounterSignatures (h.counterSignatures ++ ss))
    | .err e => .err e
    | .panic p => .panic p
  else .ok (h.setRest (h.rest ++ [(label, value)]))

/-- the `for (l, value) in m.into_iter()` loop of `Header::from_cbor_value`; `seen` holds the labels met so far. -/
def headerLoop (depth : Nat) (sigFrom : Value → Res CoseSignature) :
    List (Value × Value) → Header → List Label → Res Header
  | [], h, _ => .ok h
  | (l, value) :: m, h, seen =>
    match Label.fromValue l with
    | .ok label =>
      match setContains Label.cmp seen label with
      | .ok true => .err .duplicateMapKey
      | .ok false =>
        match headerDispatch depth sigFrom label value h with
        | .ok h' =>
          if !h'.iv.isEmpty && !h'.partialIv.isEmpty then .err .unexpectedItem
          else headerLoop depth sigFrom m h' (seen ++ [label])
        | .err e => .err e
        | .panic p => .panic p
      | .err e => .err e
      | .panic p => .panic p
    | .err e => .err e
    | .panic p => .panic p

mutual
/-- `Header::from_cbor_value` -/
def Header.fromValue : Nat → Nat → Value → Res Header
  | 0, _, _ => .err .outOfFuel
  | fuel+1, depth, v =>
    match tryAsMap v with
    | .ok m => headerLoop depth (CoseSignature.fromValue fuel (depth - 1)) m Header.default []
    | .err e => .err e
    | .panic p => .panic p
/-- `CoseSignature::from_cbor_value` -/
def CoseSignature.fromValue : Nat → Nat → Value → Res CoseSignature
  | 0, _, _ => .err .outOfFuel
  | fuel+1, depth, v =>
    match tryAsArray v with
    | .ok a =>
      if Gen.CoseSignature_arityBad a.length then .err .unexpectedItem else
      match vremove a (Gen.CoseSignature_removes.getD 0 99) with
      | .ok (x2, a) =>
        match tryAsBytes x2 with
        | .ok signature =>
          match vremove a (Gen.CoseSignature_removes.getD 1 99) with
          | .ok (x1, a) =>
            match Header.fromValue fuel depth x1 with
            | .ok unprotected =>
              match vremove a (Gen.CoseSignature_removes.getD 2 99) with
              | .ok (x0, _) =>
                match ProtectedHeader.fromBstr fuel depth x0 with
                | .ok prot => .ok (.mk prot unprotected signature)
                | .err e => .err e
                | .panic p => .panic p
              | .err e => .err e
              | .panic p => .panic p
            | .err e => .err e
            | .panic p => .panic p
          | .err e => .err e
          | .panic p => .panic p
        | .err e => .err e
        | .panic p => .panic p
      | .err e => .err e
      | .panic p => .panic p
    | .err e => .err e
    | .panic p => .panic p
/-- `ProtectedHeader::from_cbor_bstr` -/
def ProtectedHeader.fromBstr : Nat → Nat → Value → Res ProtectedHeader
  | 0, _, _ => .err .outOfFuel
  | fuel+1, depth, v =>
    match tryAsBytes v with
    | .ok data =>
      if data.isEmpty then .ok (.mk (some data) Header.default)
      else
        match readToValue data with
        | .ok x =>
          match Header.fromValue fuel depth x with
          | .ok h => .ok (.mk (some data) h)
          | .err e => .err e
          | .panic p => .panic p
        | .err e => .err e
        | .panic p => .panic p
    | .err e => .err e
    | .panic p => .panic p
end

/-- `MAX_SIGNATURE_NESTING` (regenerated from the source). -/
def maxNest : Nat := Gen.MAX_SIGNATURE_NESTING

/-- fuel that always suffices: one Header → CoseSignature → ProtectedHeader → Header cycle costs three
    units of fuel and one unit of depth (`family_induction`, `fuel_independent` in CosetProofs/Fuel.lean). -/
def topFuel : Nat := 3 * maxNest + 3

/-- the `AsCborValue::from_cbor_value` entry points (full nesting budget). -/
def hdrFromValue (v : Value) : Res Header := Header.fromValue topFuel maxNest v
def sigFromValue (v : Value) : Res CoseSignature := CoseSignature.fromValue topFuel maxNest v
/-- `ProtectedHeader::from_cbor_bstr` -/
def phFromBstr (v : Value) : Res ProtectedHeader := ProtectedHeader.fromBstr topFuel maxNest v

/-- `ProtectedHeader::from_cbor_value` (the `AsCborValue` impl: no stored bytes). -/
def ProtectedHeader.fromValue (v : Value) : Res ProtectedHeader :=
  match hdrFromValue v with
  | .ok h => .ok (.mk none h)
  | .err e => .err e
  | .panic p => .panic p

/-- the `seen` loop at the end of `Header::to_cbor_value` / `CoseKey::to_cbor_value`. -/
def restToPairs : List (Label × Value) → List Label → List (Value × Value) → Res (List (Value × Value))
  | [], _, acc => .ok acc
  | (label, value) :: r, seen, acc =>
    match setContains Label.cmp seen label with
    | .ok true => .err .duplicateMapKey
    | .ok false =>
      match Label.toValue label with
      | .ok k => restToPairs r (seen ++ [label]) (acc ++ [(k, value)])
      | .err e => .err e
      | .panic p => .panic p
    | .err e => .err e
    | .panic p => .panic p

/-- the labels of the typed entries already pushed (all of them are integer labels): `seen` is seeded with them. -/
def typedSeen (m : List (Value × Value)) : List Label :=
  m.filterMap fun p => match p.1 with
    | .int n => some (Label.int n)
    | _ => none

/-- `to_cbor_array` over registry labels (cannot fail). -/
def regLabelsToValues (R : Registry) (ls : List RegLabel) : Res (List Value) := mapRes (RegLabel.toValue R) ls

/-- the integer / text a registry label stands for (`to_cbor_value` of a label cannot fail). -/
def RegLabel.value (R : Registry) : RegLabel → Value
  | .assigned k => .int (R.toI64 k)
  | .text t => .text t
def RegLabelPriv.value (R : Registry) : RegLabelPriv → Value
  | .privateUse i => .int i
  | .assigned k => .int (R.toI64 k)
  | .text t => .text t

/-- the entries `Header::to_cbor_value` pushes for alg, crit, content type, kid, IV, Partial IV (in this order, only when populated). -/
def headerTypedPairs (alg : Option RegLabelPriv) (crit : List RegLabel) (ct : Option RegLabel) (kid iv piv : Bytes) : List (Value × Value) :=
  let m1 : List (Value × Value) := match alg with
    | some a => [(.int Gen.header_ALG, RegLabelPriv.value Reg.algorithm a)]
    | none => []
  let m2 := if !crit.isEmpty then m1 ++ [(.int Gen.header_CRIT, .array (crit.map (RegLabel.value Reg.headerParameter)))] else m1
  let m3 := match ct with
    | some c => m2 ++ [(.int Gen.header_CONTENT_TYPE, RegLabel.value Reg.coapContentFormat c)]
    | none => m2
  let m4 := if !kid.isEmpty then m3 ++ [(.int Gen.header_KID, .bytes kid)] else m3
  let m5 := if !iv.isEmpty then m4 ++ [(.int Gen.header_IV, .bytes iv)] else m4
  if !piv.isEmpty then m5 ++ [(.int Gen.header_PARTIAL_IV, .bytes piv)] else m5

/-- the final loop over the extra parameters, `seen` seeded with the labels already emitted. -/
def headerFinish (m : List (Value × Value)) (rest : List (Label × Value)) : Res Value :=
  match restToPairs rest (typedSeen m) m with
  | .ok m' => .ok (.map m')
  | .err e => .err e
  | .panic p => .panic p

mutual
/-- `Header::to_cbor_value` -/
def Header.toValue : Header → Res Value
  | .mk alg crit ct kid iv piv cs rest =>
    match cs with
    | [] => headerFinish (headerTypedPairs alg crit ct kid iv piv) rest
    | [s] =>
      match CoseSignature.toValue s with
      | .ok v => headerFinish (headerTypedPairs alg crit ct kid iv piv ++ [(.int Gen.header_COUNTER_SIG, v)]) rest
      | .err e => .err e
      | .panic p => .panic p
    | s :: s2 :: ss =>
      match sigsToValues (s :: s2 :: ss) with
      | .ok vs => headerFinish (headerTypedPairs alg crit ct kid iv piv ++ [(.int Gen.header_COUNTER_SIG, .array vs)]) rest
      | .err e => .err e
      | .panic p => .panic p
/-- `CoseSignature::to_cbor_value` -/
def CoseSignature.toValue : CoseSignature → Res Value
  | .mk prot unprot sig =>
    match ProtectedHeader.cborBstr prot with
    | .ok p =>
      match Header.toValue unprot with
      | .ok u => .ok (.array [p, u, .bytes sig])
      | .err e => .err e
      | .panic s => .panic s
    | .err e => .err e
    | .panic s => .panic s
/-- `ProtectedHeader::cbor_bstr` -/
def ProtectedHeader.cborBstr : ProtectedHeader → Res Value
  | .mk orig h =>
    match orig with
    | some d => .ok (.bytes d)
    | none =>
      if h.isEmpty then .ok (.bytes [])
      else
        match Header.toValue h with
        | .ok v => .ok (.bytes (Cbor.enc v))
        | .err e => .err e
        | .panic s => .panic s
/-- `to_cbor_array(signatures)` -/
def sigsToValues : List CoseSignature → Res (List Value)
  | [] => .ok []
  | s :: ss =>
    match CoseSignature.toValue s with
    | .ok v =>
      match sigsToValues ss with
      | .ok vs => .ok (v :: vs)
      | .err e => .err e
      | .panic p => .panic p
    | .err e => .err e
    | .panic p => .panic p
end

/-- `ProtectedHeader::to_cbor_value` -/
def ProtectedHeader.toValue (p : ProtectedHeader) : Res Value := Header.toValue p.header

end Coset
